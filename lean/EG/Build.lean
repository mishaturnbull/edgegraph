import EG.Query
/-
  EG.Build — mirror model of the builders
    builder/adjlist.py   : load_adj_dict
    builder/adjmatrix.py : load_adj_matrix
    builder/randgraph.py : randgraph  (the RNG is an oracle: the draws are arguments)
  generic in the primitives (instantiated with M.prims by the driver; the theorems hold for any
  record of primitives that is `B.Plain`, EG.Proofs.BuildLemmas).
-/
namespace EG
namespace C
variable (P : Prims)

/-- `for v2 in v2s: explicit.link_from_to(v1, linktype, v2); v2.add_to_universe(uni)` -/
def adjRow (w : World) (c : LCls) (u k : VId) : List VId → Option World
  | [] => some w
  | v :: vs =>
    match newLink P w c [some k, some v] with
    | .error _ => none
    | .ok (w, _) =>
      match P.addToUniverse w v u with
      | none => none
      | some w => adjRow w c u k vs

/-- `for v1, v2s in adjdict.items(): v1.add_to_universe(uni); …` -/
def adjRows (w : World) (c : LCls) (u : VId) : List (VId × List VId) → Option World
  | [] => some w
  | (k, vs) :: rest =>
    match P.addToUniverse w k u with
    | none => none
    | some w =>
      match adjRow P w c u k vs with
      | none => none
      | some w => adjRows w c u rest

/-- `load_adj_dict(adjdict, linktype=c)`; the dict as an association list in dict order -/
def loadAdjDict (w : World) (c : LCls) (adj : List (VId × List VId)) : Except Err (World × VId) :=
  match newUniverse P w [] [] none with
  | .error e => .error e
  | .ok (w, u) =>
    match adjRows P w c u adj with
    | none => .error .recursion
    | some w => .ok (w, u)

def addAllToUniverse (w : World) (u : VId) : List VId → Option World
  | [] => some w
  | v :: vs =>
    match P.addToUniverse w v u with
    | none => none
    | some w => addAllToUniverse w u vs

/-- `for j, cell in enumerate(row): if cell: link_from_to(vertices[i], linktype, vertices[j])` -/
def matRow (w : World) (c : LCls) (vi : VId) : List Bool → List VId → Option World
  | cell :: cells, vj :: vjs =>
    if cell then
      match newLink P w c [some vi, some vj] with
      | .error _ => none
      | .ok (w, _) => matRow w c vi cells vjs
    else matRow w c vi cells vjs
  | _, _ => some w

def matRows (w : World) (c : LCls) (verts : List VId) : List (List Bool) → List VId → Option World
  | row :: rows, vi :: vis =>
    match matRow P w c vi row verts with
    | none => none
    | some w => matRows w c verts rows vis
  | _, _ => some w

/-- `load_adj_matrix(matrix, vertices, linktype=c)`; cells already reduced to their truth value -/
def loadAdjMatrix (w : World) (c : LCls) (matrix : List (List Bool)) (verts : List VId) :
    Except Err (World × VId) :=
  if verts.length ≠ matrix.length then .error .value
  else if matrix.any (fun row => row.length ≠ matrix.length) then .error .value
  else
    match newUniverse P w [] [] none with
    | .error e => .error e
    | .ok (w, u) =>
      match addAllToUniverse P w u verts with
      | none => .error .recursion
      | some w =>
        match matRows P w c verts matrix verts with
        | none => .error .recursion
        | some w => .ok (w, u)

/-! ### randgraph -/

/-- `verts = [Vertex(attributes={"i": i}) for i in range(count)]`; attribute name 99 = "i" -/
def randVerts (w : World) : Nat → Nat → Option World
  | 0, _ => some w
  | n+1, i =>
    match newVertex P w .V [(99, i)] [] [] with
    | .error _ => none
    | .ok (w, _) => randVerts w n (i + 1)

/-- `k = int(random.randint(1, max(1, i)) * connectivity)`, `max(k, 1)` if ensurelink,
    `min(k, count)`; connectivity = p / q as IEEE doubles, `r` the value randint returned -/
def randK (count r p q : Nat) (ensure : Bool) : Nat :=
  let conn : Float := Float.ofNat p / Float.ofNat q
  let k := (Float.ofNat r * conn).toUInt64.toNat
  let k := if ensure then max k 1 else k
  min k count

/-- one answer of the RNG oracle for vertex `i`: the value `randint` returned and the sample
    (as indices into `verts`) -/
structure Draw where
  r : Nat
  sample : List Nat

/-- the draws are admissible answers of `random.randint(1, max(1,i))` and
    `random.sample(verts, k)` (k distinct elements) -/
def drawsOK (count p q : Nat) (ensure : Bool) : Nat → List Draw → Bool
  | _, [] => true
  | i, d :: ds =>
    (1 ≤ d.r && d.r ≤ max 1 i && d.sample.length == randK count d.r p q ensure &&
      d.sample.all (· < count) && d.sample.eraseDups.length == d.sample.length) &&
    drawsOK count p q ensure (i + 1) ds

/-- `randgraph(count, edge=c, connectivity=p/q (none = 5/count), ensurelink)` with the RNG
    answers `draws` (one per vertex) -/
def randgraph (w : World) (count : Nat) (c : LCls) (conn : Option (Nat × Nat)) (ensure : Bool)
    (draws : List Draw) : Except Err (World × VId) :=
  let (p, q) := conn.getD (5, count)
  if q = 0 then .error .other else     -- `5 / count` with count = 0 : ZeroDivisionError
  if draws.length ≠ count || !(drawsOK count p q ensure 0 draws) then .error .other else
  let base := w.nV
  match randVerts P w count 0 with
  | none => .error .recursion
  | some w =>
    let adj := (List.range count).zip draws |>.map fun (i, d) => (base + i, d.sample.map (base + ·))
    loadAdjDict P w c adj

end C
end EG
