import EG.StructSpec
/-
  EG.Prims — the primitive mutators as a record, so that every compound operation
  (constructors, end assignment, explicit.link_from_to / unlink, the step function) is
  written ONCE, generically, and instantiated with
    * `M.prims` : the mirror model (mutually recursive, fuelled), and
    * `S.prims` : the plain reference model (closed forms).
  `EG.Proofs.*` show the two records agree on every world satisfying the invariants,
  hence `M.step = S.step` and `M.run = S.run` (C03).
-/
namespace EG

structure Prims where
  addToLink : World → VId → LId → Option World
  addVertex : World → LId → Option VId → Option World
  removeFromLink : World → VId → LId → Option World
  unlinkFrom : World → LId → Option VId → Option World
  replaceEnd : World → LId → Nat → Option VId → Option World
  uniAddVertex : World → VId → VId → Option World
  addToUniverse : World → VId → VId → Option World
  uniRemoveVertex : World → VId → VId → Option (Except Err World)
  removeFromUniverse : World → VId → VId → Option (Except Err World)
  setLaws : World → VId → Option WId → Option World
  setAppliesTo : World → WId → Option VId → Option World

/-- fuel handed to every primitive by the mirror model (far above the constants shown
    sufficient in `EG.Proofs.StructRefine` / `UniLaws`) -/
def M.fuel : Nat := 8

def M.prims : Prims where
  addToLink := M.addToLink M.fuel
  addVertex := M.addVertex M.fuel
  removeFromLink := M.removeFromLink M.fuel
  unlinkFrom := M.unlinkFrom M.fuel
  replaceEnd := M.replaceEnd M.fuel
  uniAddVertex := M.uniAddVertex M.fuel
  addToUniverse := M.addToUniverse M.fuel
  uniRemoveVertex := M.uniRemoveVertex M.fuel
  removeFromUniverse := M.removeFromUniverse M.fuel
  setLaws := M.setLaws M.fuel
  setAppliesTo := M.setAppliesTo M.fuel

def S.prims : Prims where
  addToLink := fun w v l => some (S.addToLink w v l)
  addVertex := fun w l x => some (S.addVertex w l x)
  removeFromLink := fun w v l => some (S.removeFromLink w v l)
  unlinkFrom := fun w l x => some (S.unlinkFrom w l x)
  replaceEnd := fun w l i x => some (S.replaceEnd w l i x)
  uniAddVertex := fun w u v => some (S.uniAddVertex w u v)
  addToUniverse := fun w v u => some (S.addToUniverse w v u)
  uniRemoveVertex := fun w u v =>
    some (if v ∈ w.members u then .ok (S.uniRemoveVertex w u v) else .error .value)
  removeFromUniverse := fun w v u =>
    some (if u ∈ w.unis v then .ok (S.removeFromUniverse w v u) else .error .value)
  setLaws := fun w u L => some (S.setLaws w u L)
  setAppliesTo := fun w L u => some (S.setAppliesTo w L u)

/-! ### compound operations, generic in the primitives -/
namespace C
variable (P : Prims)

/-- `e.v1 = new` (idx 0) / `e.v2 = new` (idx 1) on a two-ended link: evaluates
    `self.v2` first (IndexError when an end is missing, nothing touched). -/
def setEnd (w : World) (l : LId) (idx : Nat) (new : Option VId) : Except Err World :=
  if (w.ends l).length < 2 then .error .index else
    match P.replaceEnd w l idx new with
    | none => .error .recursion
    | some w => .ok w

/-- `Link.__init__(vertices=vs)` after allocation: `for vert in vertices: self.add_vertex(vert)` -/
def addVertices (w : World) (l : LId) : List (Option VId) → Option World
  | [] => some w
  | x :: xs => match P.addVertex w l x with
    | none => none
    | some w => addVertices w l xs

/-- `cls(v1, v2)` for a two-ended class, `NLink(vertices=vs)` for the n-ary class.
    (Ill-typed arguments are rejected by the caller before anything is touched.) -/
def newLink (w : World) (c : LCls) (vs : List (Option VId)) : Except Err (World × LId) :=
  let (w, l) := M.allocLink w c
  match addVertices P w l vs with
  | none => .error .recursion
  | some w => .ok (w, l)

def addToLinks (w : World) (v : VId) : List LId → Option World
  | [] => some w
  | l :: ls => match P.addToLink w v l with
    | none => none
    | some w => addToLinks w v ls

def uniAddVertices (w : World) (u : VId) : List VId → Option World
  | [] => some w
  | v :: vs => match P.uniAddVertex w u v with
    | none => none
    | some w => uniAddVertices w u vs

/-- `for uni in self.universes: uni.add_vertex(self)` -/
def joinUniverses (w : World) (v : VId) : List VId → Option World
  | [] => some w
  | u :: us => match P.uniAddVertex w u v with
    | none => none
    | some w => joinUniverses w v us

/-- `cls(links=ls, universes=us, attributes=attrs)` for a non-universe vertex class -/
def newVertex (w : World) (c : VCls) (attrs : List (Nat × Nat))
    (ls : List LId) (us : List VId) : Except Err (World × VId) :=
  let (w, v) := M.allocVertex w c attrs us
  match addToLinks P w v ls with
  | none => .error .recursion
  | some w =>
    match joinUniverses P w v (w.unis v) with
    | none => .error .recursion
    | some w => .ok ((w.invalidate v), v)   -- `self.__qa_nb_cache = {}`

/-- `Universe(vertices=vs, laws=L?)` -/
def newUniverse (w : World) (attrs : List (Nat × Nat)) (vs : List VId)
    (L : Option WId) : Except Err (World × VId) :=
  let (w, u) := M.allocVertex w .UNI attrs []
  let w := w.invalidate u
  let (w, L) := match L with
    | some L => (w, L)
    | none => M.allocLaws w
  match P.setLaws w u (some L) with
  | none => .error .recursion
  | some w =>
    match uniAddVertices P w u vs with
    | none => .error .recursion
    | some w => .ok (w, u)

end C
end EG
