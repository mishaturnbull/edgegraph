import EG.Build
import EG.Proofs.Inv
/-
  EG.Proofs.BuildLemmas — after `Universe()` a builder only creates two-ended links and adds
  members: every loop is one induction carrying `Ext`, whose base is the world before the call
  plus a blank vertex (`blankW`), so that `Built'` (the result relative to the world before the
  call) is read off by projection.  Namespace `B` mirrors the vocabulary of C11, which imports
  this file.
-/
namespace EG
namespace B

def mentions (adj : List (VId × List VId)) : List VId := adj.flatMap fun p => p.1 :: p.2

def dictPairs (adj : List (VId × List VId)) : List (VId × VId) :=
  adj.flatMap fun p => p.2.map fun v => (p.1, v)

/-- the pairs `matRows` has still to link: `rows` against the row vertices `vis` left over
    (`EG.matPairs verts m` of C11 is `matPairsG verts m verts`) -/
def matPairsG (verts : List VId) (rows : List (List Bool)) (vis : List VId) : List (VId × VId) :=
  (rows.zip vis).flatMap fun rv =>
    ((rv.1.zip verts).filter (·.1)).map fun cv => (rv.2, cv.2)

/-- the pairs `matRow` links for the row vertex `vi`: one per truthy cell -/
def rowPairs (verts : List VId) (vi : VId) (row : List Bool) : List (VId × VId) :=
  ((row.zip verts).filter (·.1)).map fun cv => (vi, cv.2)

/-- what a builder appends to `v.links`: of the new links, numbered from `w.nL` in the order of
    `pairs`, those `v` is an end of -/
def gained (w : World) (pairs : List (VId × VId)) (v : VId) : List LId :=
  ((List.range pairs.length).filter
    (fun i => (pairs.getD i (0, 0)).1 == v || (pairs.getD i (0, 0)).2 == v)).map (w.nL + ·)

theorem gained_nil (w : World) (v : VId) : gained w [] v = [] := rfl

theorem gained_snoc (w : World) (pairs : List (VId × VId)) (a b v : VId) :
    gained w (pairs ++ [(a, b)]) v =
      gained w pairs v ++ (if a = v ∨ b = v then [w.nL + pairs.length] else []) := by
  simp only [gained, List.length_append, List.length_singleton, List.range_succ, List.filter_append,
    List.map_append]
  congr 2
  · refine List.filter_congr fun i hi => ?_
    simp only [List.getD_eq_getElem?_getD, List.getElem?_append_left (List.mem_range.mp hi)]
  · simp only [List.filter_cons, List.filter_nil, List.getD_eq_getElem?_getD,
      List.getElem?_concat_length, Option.getD_some, Bool.or_eq_true, beq_iff_eq]
    split <;> rfl

theorem mem_gained (w : World) (pairs : List (VId × VId)) (v : VId) :
    ∀ l ∈ gained w pairs v, w.nL ≤ l := by
  intro l hl
  simp only [gained, List.mem_map] at hl
  obtain ⟨i, _, rfl⟩ := hl
  exact Nat.le_add_right _ _

/-- the world after `c(a, b)`: link `w.nL` allocated, then both ends attached -/
def linkW (w : World) (c : LCls) (a b : VId) : World :=
  S.addVertex (S.addVertex (M.allocLink w c).1 w.nL (some a)) w.nL (some b)

/-- the primitives the builders call are total and are the reference model's: true of `S.prims`
    by definition, of `M.prims` by refinement -/
structure Plain (P : Prims) : Prop where
  addVertex : ∀ w l x, P.addVertex w l x = some (S.addVertex w l x)
  addToUniverse : ∀ w v u, P.addToUniverse w v u = some (S.addToUniverse w v u)
  setLaws : ∀ w u x, LawSym w → P.setLaws w u x = some (S.setLaws w u x)

theorem plain_S : Plain S.prims := ⟨fun _ _ _ => rfl, fun _ _ _ => rfl, fun _ _ _ _ => rfl⟩
theorem plain_M : Plain M.prims := ⟨agree_addVertex, agree_addToUniverse, agree_setLaws⟩

theorem newLink_pair {P : Prims} (hP : Plain P) (w : World) (c : LCls) (a b : VId) :
    C.newLink P w c [some a, some b] = .ok (linkW w c a b, w.nL) := by
  simp only [C.newLink, C.addVertices, M.allocLink, hP.addVertex]
  rfl

theorem step_newEdge (F : Nat → LId → Option VId → Bool) (w : World) (c : LCls) (a b : VId)
    (hc : c.kind ≠ .nary) (ha : w.vOK a = true) (hb : w.vOK b = true) :
    M.step F w (.newEdge c (some a) (some b)) = (linkW w c a b, .link w.nL) := by
  have hc' : (c.kind == Kind.nary) = false := by simpa using hc
  simp only [M.step, C.step, hc', World.ovOK, ha, hb, newLink_pair plain_M, Bool.not_true,
    Bool.or_self, Bool.false_eq_true, if_false]

theorem linkW_inv (w : World) (c : LCls) (a b : VId) (h : Inv w) (ha : a < w.nV) (hb : b < w.nV) :
    Inv (linkW w c a b) :=
  S.addVertex_inv _ w.nL (some b)
    (S.addVertex_inv _ w.nL (some a) (allocLink_inv w c h) (Nat.lt_succ_self _) (decide_eq_true ha))
    (Nat.lt_succ_self _) (decide_eq_true hb)

theorem linkW_links (w : World) (c : LCls) (a b : VId) (h : Inv w) (v : VId) :
    (linkW w c a b).links v = if a = v ∨ b = v then w.links v ++ [w.nL] else w.links v := by
  have h1 := h.nL_not_mem a
  have h2 := h.nL_not_mem b
  simp only [linkW, S.addVertex, M.allocLink]
  grind

theorem linkW_ends (w : World) (c : LCls) (a b : VId) (l : LId) :
    (linkW w c a b).ends l = if l = w.nL then [some a, some b] else w.ends l := by
  simp only [linkW, S.addVertex, M.allocLink, upd]
  grind

theorem linkW_lcls (w : World) (c : LCls) (a b : VId) (l : LId) :
    (linkW w c a b).lcls l = if l = w.nL then c else w.lcls l := rfl

theorem linkW_nL (w : World) (c : LCls) (a b : VId) : (linkW w c a b).nL = w.nL + 1 := rfl
theorem linkW_nV (w : World) (c : LCls) (a b : VId) : (linkW w c a b).nV = w.nV := rfl
theorem linkW_unis (w : World) (c : LCls) (a b : VId) : (linkW w c a b).unis = w.unis := rfl
theorem linkW_members (w : World) (c : LCls) (a b : VId) : (linkW w c a b).members = w.members := rfl
theorem linkW_vcls (w : World) (c : LCls) (a b : VId) : (linkW w c a b).vcls = w.vcls := rfl
theorem linkW_attrs (w : World) (c : LCls) (a b : VId) : (linkW w c a b).attrs = w.attrs := rfl

/-- `w` is `w0` plus the links `pairs` (class `c`, in this order) plus the memberships `ms`
    in the universe `u` (which was empty in `w0`) -/
structure Ext (w0 w : World) (c : LCls) (u : VId) (pairs : List (VId × VId)) (ms : List VId) :
    Prop where
  inv : Inv w
  nV : w.nV = w0.nV
  nL : w.nL = w0.nL + pairs.length
  new_links : ∀ i p, pairs[i]? = some p →
    w.ends (w0.nL + i) = [some p.1, some p.2] ∧ w.lcls (w0.nL + i) = c
  old_links : ∀ l, l < w0.nL → w.ends l = w0.ends l ∧ w.lcls l = w0.lcls l
  links : ∀ v, w.links v = w0.links v ++ gained w0 pairs v
  members : w.members u = dedupKeepFirst ms
  old_members : ∀ x, x ≠ u → w.members x = w0.members x
  unis : ∀ v, ∃ more, w.unis v = w0.unis v ++ more ∧ ∀ x ∈ more, x = u
  vcls : w.vcls = w0.vcls
  attrs : w.attrs = w0.attrs

theorem Ext.link {w0 w : World} {c : LCls} {u : VId} {pairs : List (VId × VId)} {ms : List VId}
    (hE : Ext w0 w c u pairs ms) (a b : VId) (ha : a < w0.nV) (hb : b < w0.nV) :
    Ext w0 (linkW w c a b) c u (pairs ++ [(a, b)]) ms where
  inv := linkW_inv w c a b hE.inv (by rw [hE.nV]; exact ha) (by rw [hE.nV]; exact hb)
  nV := hE.nV
  nL := by rw [linkW_nL, hE.nL, List.length_append, List.length_singleton, Nat.add_assoc]
  new_links := by
    intro i p hp
    rw [linkW_ends, linkW_lcls, hE.nL]
    rw [List.getElem?_append, List.getElem?_singleton] at hp
    split at hp
    · have hne : w0.nL + i ≠ w0.nL + pairs.length := by omega
      rw [if_neg hne, if_neg hne]; exact hE.new_links i p hp
    · next hi =>
      split at hp
      · next h0 =>
        cases hp
        rw [Nat.le_antisymm (Nat.le_of_sub_eq_zero h0) (Nat.le_of_not_lt hi), if_pos rfl, if_pos rfl]
        exact ⟨rfl, rfl⟩
      · cases hp
  old_links := by
    intro l hl
    have hne : l ≠ w.nL := by rw [hE.nL]; omega
    rw [linkW_ends, linkW_lcls, if_neg hne, if_neg hne]; exact hE.old_links l hl
  links := by
    intro v
    rw [linkW_links w c a b hE.inv, gained_snoc, hE.links v, hE.nL]
    split <;> simp
  members := hE.members
  old_members := hE.old_members
  unis := hE.unis
  vcls := hE.vcls
  attrs := hE.attrs

theorem Ext.join {w0 w : World} {c : LCls} {u : VId} {pairs : List (VId × VId)} {ms : List VId}
    (hE : Ext w0 w c u pairs ms) (v : VId) (hv : v < w0.nV) (hu : u < w0.nV) :
    Ext w0 (S.addToUniverse w v u) c u pairs (ms ++ [v]) where
  inv := S.addToUniverse_inv w v u hE.inv (by rw [hE.nV]; exact hu) (by rw [hE.nV]; exact hv)
  nV := hE.nV
  nL := hE.nL
  new_links := hE.new_links
  old_links := hE.old_links
  links := hE.links
  members := by
    have := hE.members
    simp only [S.addToUniverse, dedup_snoc, this, mem_dedupKeepFirst, true_and]
    by_cases hm : v ∈ ms <;> simp [hm]
  old_members := by
    intro x hx
    simp only [S.addToUniverse, hx, false_and, if_false]
    exact hE.old_members x hx
  unis := by
    intro x
    obtain ⟨more, e1, e2⟩ := hE.unis x
    simp only [S.addToUniverse]
    split
    · next hc =>
      refine ⟨more ++ [u], by rw [← hc.1, e1, List.append_assoc], fun y hy => ?_⟩
      exact (List.mem_append.mp hy).elim (e2 y) List.eq_of_mem_singleton
    · exact ⟨more, e1, e2⟩
  vcls := hE.vcls
  attrs := hE.attrs

section
variable {P : Prims} (hP : Plain P) {w0 : World} {c : LCls} {u : VId}
include hP

theorem adjRow_S (k : VId) (hk : k < w0.nV) (hu : u < w0.nV)
    (vs : List VId) : ∀ (w : World) (pairs : List (VId × VId)) (ms : List VId),
    Ext w0 w c u pairs ms → (∀ v ∈ vs, v < w0.nV) →
    ∃ w', C.adjRow P w c u k vs = some w' ∧
      Ext w0 w' c u (pairs ++ vs.map (fun v => (k, v))) (ms ++ vs) := by
  induction vs with
  | nil => intro w pairs ms hE _; exact ⟨w, rfl, by simpa using hE⟩
  | cons v vs ih =>
    intro w pairs ms hE hvs
    have hv : v < w0.nV := hvs v (by simp)
    simp only [C.adjRow, newLink_pair hP, hP.addToUniverse]
    simpa [List.append_assoc] using
      ih _ _ _ ((hE.link k v hk hv).join v hv hu) (fun x hx => hvs x (by simp [hx]))

theorem adjRows_S (hu : u < w0.nV)
    (adj : List (VId × List VId)) : ∀ (w : World) (pairs : List (VId × VId)) (ms : List VId),
    Ext w0 w c u pairs ms → (∀ p ∈ adj, p.1 < w0.nV ∧ ∀ v ∈ p.2, v < w0.nV) →
    ∃ w', C.adjRows P w c u adj = some w' ∧
      Ext w0 w' c u (pairs ++ dictPairs adj) (ms ++ mentions adj) := by
  induction adj with
  | nil => intro w pairs ms hE _; exact ⟨w, rfl, by simpa [dictPairs, mentions] using hE⟩
  | cons kv rest ih =>
    intro w pairs ms hE hadj
    obtain ⟨hk, hvs⟩ := hadj kv (by simp)
    obtain ⟨w1, e1, hE1⟩ := adjRow_S hP kv.1 hk hu kv.2 _ _ _ (hE.join kv.1 hk hu) hvs
    simp only [C.adjRows, hP.addToUniverse, e1]
    simpa [dictPairs, mentions, List.append_assoc] using
      ih _ _ _ hE1 (fun p hp => hadj p (by simp [hp]))

theorem addAll_S (hu : u < w0.nV)
    (vs : List VId) : ∀ (w : World) (pairs : List (VId × VId)) (ms : List VId),
    Ext w0 w c u pairs ms → (∀ v ∈ vs, v < w0.nV) →
    ∃ w', C.addAllToUniverse P w u vs = some w' ∧ Ext w0 w' c u pairs (ms ++ vs) := by
  induction vs with
  | nil => intro w pairs ms hE _; exact ⟨w, rfl, by simpa using hE⟩
  | cons v vs ih =>
    intro w pairs ms hE hvs
    simp only [C.addAllToUniverse, hP.addToUniverse]
    simpa [List.append_assoc] using
      ih _ _ _ (hE.join v (hvs v (by simp)) hu) (fun x hx => hvs x (by simp [hx]))

theorem matRow_S (vi : VId) (hvi : vi < w0.nV)
    (row : List Bool) : ∀ (vjs : List VId) (w : World) (pairs : List (VId × VId)) (ms : List VId),
    Ext w0 w c u pairs ms → (∀ v ∈ vjs, v < w0.nV) →
    ∃ w', C.matRow P w c vi row vjs = some w' ∧
      Ext w0 w' c u (pairs ++ rowPairs vjs vi row) ms := by
  induction row with
  | nil => intro vjs w pairs ms hE _; exact ⟨w, rfl, by simpa [rowPairs] using hE⟩
  | cons cell cells ih =>
    intro vjs w pairs ms hE hvs
    cases vjs with
    | nil => exact ⟨w, rfl, by simpa [rowPairs] using hE⟩
    | cons vj vjs =>
      have hvs' : ∀ v ∈ vjs, v < w0.nV := fun x hx => hvs x (by simp [hx])
      cases cell with
      | false => exact ih vjs _ _ _ hE hvs'
      | true =>
        simp only [C.matRow, if_true, newLink_pair hP]
        have := ih vjs _ _ _ (hE.link vi vj hvi (hvs vj (by simp))) hvs'
        rwa [List.append_assoc] at this

theorem matRows_S (verts : List VId)
    (hverts : ∀ v ∈ verts, v < w0.nV)
    (rows : List (List Bool)) : ∀ (vis : List VId) (w : World) (pairs : List (VId × VId))
    (ms : List VId), Ext w0 w c u pairs ms → (∀ v ∈ vis, v < w0.nV) →
    ∃ w', C.matRows P w c verts rows vis = some w' ∧
      Ext w0 w' c u (pairs ++ matPairsG verts rows vis) ms := by
  induction rows with
  | nil => intro vis w pairs ms hE _; exact ⟨w, rfl, by simpa [matPairsG] using hE⟩
  | cons row rows ih =>
    intro vis w pairs ms hE hvs
    cases vis with
    | nil => exact ⟨w, rfl, by simpa [matPairsG] using hE⟩
    | cons vi vis =>
      obtain ⟨w1, e1, hE1⟩ := matRow_S hP vi (hvs vi (by simp)) row verts _ _ _ hE hverts
      simp only [C.matRows, e1]
      have : matPairsG verts (row :: rows) (vi :: vis) =
          rowPairs verts vi row ++ matPairsG verts rows vis := rfl
      simpa [this, List.append_assoc] using ih vis _ _ _ hE1 (fun x hx => hvs x (by simp [hx]))

end

/-- the world after `Universe()`: a vertex of class `UNI`, a default law set, the two attached -/
def uniW (w : World) : World :=
  S.setLaws (M.allocLaws ((M.allocVertex w .UNI [] []).1.invalidate w.nV)).1 w.nV (some w.nW)

theorem preUni_inv (w : World) (h : Inv w) :
    Inv (M.allocLaws ((M.allocVertex w .UNI [] []).1.invalidate w.nV)).1 :=
  allocLaws_inv _ 0 (allocVertex_inv_nil w .UNI [] h)

theorem newUniverse_nil {P : Prims} (hP : Plain P) (w : World) (h : Inv w) :
    C.newUniverse P w [] [] none = .ok (uniW w, w.nV) := by
  rw [C.newUniverse_unfold]
  show (match P.setLaws (M.allocLaws ((M.allocVertex w .UNI [] []).1.invalidate w.nV)).1 w.nV
    (some w.nW) with | none => _ | some w' => _) = _
  rw [hP.setLaws _ _ _ (preUni_inv w h).lawSym]
  rfl

theorem setLaws_attrs (w : World) (u : VId) (x : Option WId) : (S.setLaws w u x).attrs = w.attrs := by
  unfold S.setLaws
  split <;> rfl

/-- same fields as `EG.Built` in `EG.Props.C11` -/
structure Built (w w' : World) (u : VId) (c : LCls) (pairs : List (VId × VId)) (ms : List VId) :
    Prop where
  inv : Inv w'
  uni_new : u = w.nV ∧ w'.nV = w.nV + 1 ∧ w'.vcls u = .UNI
  members : w'.members u = dedupKeepFirst ms
  nlinks : w'.nL = w.nL + pairs.length
  new_links : ∀ i (h : i < pairs.length),
    w'.ends (w.nL + i) = [some (pairs[i]).1, some (pairs[i]).2] ∧ w'.lcls (w.nL + i) = c
  old_links : ∀ l, l < w.nL → w'.ends l = w.ends l ∧ w'.lcls l = w.lcls l
  links_prefix : ∀ v, v < w.nV → ∃ more, w'.links v = w.links v ++ more ∧ ∀ l ∈ more, w.nL ≤ l
  unis_prefix : ∀ v, v < w.nV → ∃ more, w'.unis v = w.unis v ++ more ∧ ∀ x ∈ more, x = u
  old_members : ∀ x, x < w.nV → w'.members x = w.members x

/-- `Built` plus the two facts it does not record -/
structure Built' (w w' : World) (c : LCls) (pairs : List (VId × VId)) (ms : List VId) : Prop where
  built : Built w w' w.nV c pairs ms
  links : ∀ v, w'.links v = w.links v ++ gained w pairs v
  attrs : ∀ x, x < w.nV → w'.attrs x = w.attrs x

/-- `w` plus a blank vertex of class `UNI`: all that `Ext` reads of the world after `Universe()`.
    Taken as the base of `Ext`, the columns `Built` speaks of are those of `w` by `rfl` -/
def blankW (w : World) : World :=
  { w with nV := w.nV + 1, vcls := upd w.vcls w.nV .UNI, attrs := upd w.attrs w.nV [] }

theorem ext_start (w : World) (c : LCls) (h : Inv w) : Ext (blankW w) (uniW w) c w.nV [] [] := by
  have f := S.setLaws_frame (M.allocLaws ((M.allocVertex w .UNI [] []).1.invalidate w.nV)).1 w.nV
    (some w.nW)
  obtain ⟨hl, hu, _⟩ := h.fresh.vertex (Nat.le_refl w.nV)
  exact {
    inv := S.setLaws_inv _ w.nV (some w.nW) (preUni_inv w h) (Nat.lt_succ_self _)
      (fun L hL => by cases hL; exact Nat.lt_succ_self _)
    nV := f.nV, nL := f.nL, vcls := f.vcls, attrs := setLaws_attrs _ _ _
    new_links := nofun
    old_links := fun l _ => ⟨congrFun f.ends l, congrFun f.lcls l⟩
    links := fun v => (congrFun (f.links.trans (upd_eq_self hl)) v).trans (List.append_nil _).symm
    members := (congrFun f.members _).trans (upd_same _ _ _)
    old_members := fun x hx => (congrFun f.members x).trans (upd_other _ _ _ _ hx)
    unis := fun v =>
      ⟨[], (congrFun (f.unis.trans (upd_eq_self hu)) v).trans (List.append_nil _).symm, nofun⟩ }

theorem built_of_ext {w w' : World} {c : LCls} {pairs : List (VId × VId)} {ms : List VId}
    (hE : Ext (blankW w) w' c w.nV pairs ms) : Built' w w' c pairs ms where
  built := {
    inv := hE.inv
    uni_new := ⟨rfl, hE.nV, by rw [hE.vcls]; exact upd_same _ _ _⟩
    members := hE.members
    nlinks := hE.nL
    new_links := fun i hi => hE.new_links i pairs[i] (List.getElem?_eq_getElem hi)
    old_links := hE.old_links
    links_prefix := fun v _ => ⟨_, hE.links v, mem_gained w pairs v⟩
    unis_prefix := fun v _ => hE.unis v
    old_members := fun x hx => hE.old_members x (Nat.ne_of_lt hx) }
  links := hE.links
  attrs := fun x hx => by rw [hE.attrs]; exact upd_other _ _ _ _ (Nat.ne_of_lt hx)

theorem loadAdjDict_S {P : Prims} (hP : Plain P) (w : World) (c : LCls)
    (adj : List (VId × List VId)) (h : Inv w)
    (hv : ∀ p ∈ adj, p.1 < w.nV ∧ ∀ v ∈ p.2, v < w.nV) :
    ∃ w', C.loadAdjDict P w c adj = .ok (w', w.nV) ∧
      Built' w w' c (dictPairs adj) (mentions adj) := by
  obtain ⟨w', e, hE⟩ := adjRows_S hP (Nat.lt_succ_self _) adj _ _ _ (ext_start w c h)
    (fun p hp =>
      ⟨Nat.lt_succ_of_lt (hv p hp).1, fun v hm => Nat.lt_succ_of_lt ((hv p hp).2 v hm)⟩)
  refine ⟨w', ?_, built_of_ext hE⟩
  simp only [C.loadAdjDict, newUniverse_nil hP w h, e]

theorem matPairsG_self (verts : List VId) (matrix : List (List Bool)) :
    matPairsG verts matrix verts =
      (matrix.zip verts).flatMap fun rv =>
        ((rv.1.zip verts).filter (·.1)).map fun cv => (rv.2, cv.2) := rfl

theorem loadAdjMatrix_S {P : Prims} (hP : Plain P) (w : World) (c : LCls)
    (matrix : List (List Bool)) (verts : List VId) (h : Inv w) (hv : ∀ v ∈ verts, v < w.nV)
    (hlen : verts.length = matrix.length) (hsq : ∀ row ∈ matrix, row.length = matrix.length) :
    ∃ w', C.loadAdjMatrix P w c matrix verts = .ok (w', w.nV) ∧
      Built' w w' c (matPairsG verts matrix verts) verts := by
  have hv' : ∀ v ∈ verts, v < w.nV + 1 := fun v hm => Nat.lt_succ_of_lt (hv v hm)
  obtain ⟨w1, e1, hE1⟩ := addAll_S hP (Nat.lt_succ_self _) verts _ _ _ (ext_start w c h) hv'
  obtain ⟨w', e, hE⟩ := matRows_S hP verts hv' matrix verts _ _ _ hE1 hv'
  refine ⟨w', ?_, built_of_ext hE⟩
  have hany : (matrix.any fun row => decide (row.length ≠ matrix.length)) = false := by
    rw [List.any_eq_false]
    intro row hr; simpa using hsq row hr
  simp only [C.loadAdjMatrix, hlen, ne_eq, not_true_eq_false, if_false, hany,
    newUniverse_nil hP w h, e1, e]
  simp

/-- a builder's specification `∃ w', run = .ok (w', _) ∧ Q w'`, read at the world a given
    successful run returned -/
theorem spec_of_result {r : Except Err (World × VId)} {n u : VId} {w' : World} {Q : World → Prop}
    (h : ∃ w'', r = .ok (w'', n) ∧ Q w'') (hr : r = .ok (w', u)) : Q w' := by
  obtain ⟨w'', e, hq⟩ := h
  rw [e] at hr
  cases hr
  exact hq

/-- the world after `Vertex(attributes=attrs)`: vertex `w.nV`, on no link, in no universe -/
def vertW (w : World) (attrs : List (Nat × Nat)) : World :=
  ((M.allocVertex w .V attrs []).1).invalidate w.nV

theorem newVertex_nil (P : Prims) (w : World) (attrs : List (Nat × Nat)) :
    C.newVertex P w .V attrs [] [] = .ok (vertW w attrs, w.nV) := by
  simp [C.newVertex, M.allocVertex, C.addToLinks, dedupKeepFirst, C.joinUniverses, vertW]

/-- `w2` is `w` after `randVerts w n i`: `n` more isolated vertices, the `j`-th carrying
    `"i" = i + j` -/
structure RV (w w2 : World) (n i : Nat) : Prop where
  inv : Inv w2
  nV : w2.nV = w.nV + n
  nL : w2.nL = w.nL
  ends : w2.ends = w.ends
  new_attrs : ∀ j, j < n → w2.attrs (w.nV + j) = [(99, i + j)]
  old_attrs : ∀ x, x < w.nV → w2.attrs x = w.attrs x

theorem randVerts_S (P : Prims) (n : Nat) : ∀ (i : Nat) (w : World), Inv w →
    ∃ w2, C.randVerts P w n i = some w2 ∧ RV w w2 n i := by
  induction n with
  | zero =>
    intro i w h
    exact ⟨w, rfl, h, rfl, rfl, rfl, fun j hj => absurd hj (Nat.not_lt_zero _), fun _ _ => rfl⟩
  | succ n ih =>
    intro i w h
    obtain ⟨w2, e2, r⟩ := ih (i + 1) (vertW w [(99, i)]) (allocVertex_inv_nil w .V [(99, i)] h)
    -- `r` speaks of `vertW w _`, whose `nV`, `nL`, `ends`, `attrs` are `w.nV + 1`, `w.nL`,
    -- `w.ends`, `upd w.attrs w.nV _` by `rfl`
    refine ⟨w2, by simp only [C.randVerts, newVertex_nil, e2], r.inv,
      r.nV.trans (Nat.add_right_comm w.nV 1 n), r.nL, r.ends, fun j hj => ?_, fun x hx => ?_⟩
    · cases j with
      | zero => exact (r.old_attrs w.nV (Nat.lt_succ_self _)).trans (upd_same _ _ _)
      | succ j =>
        have : w2.attrs (w.nV + 1 + j) = [(99, i + 1 + j)] :=
          r.new_attrs j (Nat.lt_of_succ_lt_succ hj)
        rwa [Nat.add_right_comm w.nV, Nat.add_right_comm i] at this
    · exact (r.old_attrs x (Nat.lt_succ_of_lt hx)).trans (upd_other _ _ _ _ (Nat.ne_of_lt hx))

theorem drawsOK_all (count p q : Nat) (ensure : Bool) (ds : List C.Draw) : ∀ i,
    C.drawsOK count p q ensure i ds = true →
    ∀ d ∈ ds, d.sample.length = C.randK count d.r p q ensure ∧ ∀ s ∈ d.sample, s < count := by
  induction ds with
  | nil => exact fun _ _ _ hd => nomatch hd
  | cons d ds ih =>
    intro i h
    simp only [C.drawsOK, Bool.and_eq_true, beq_iff_eq, List.all_eq_true, decide_eq_true_eq] at h
    exact List.forall_mem_cons.mpr ⟨⟨h.1.1.1.2, h.1.1.2⟩, ih (i + 1) h.2⟩

theorem draw_eq_of_map (d1 d2 : List C.Draw)
    (h : d1.map (fun d => (d.r, d.sample)) = d2.map (fun d => (d.r, d.sample))) : d1 = d2 :=
  (List.map_inj_right (fun ⟨_, _⟩ ⟨_, _⟩ e => by cases e; rfl)).mp h

/-- the adjacency dict `randgraph` hands to `load_adj_dict` -/
def randAdj (base count : Nat) (draws : List C.Draw) : List (VId × List VId) :=
  (List.range count).zip draws |>.map fun (i, d) => (base + i, d.sample.map (base + ·))

/-- with one draw per vertex, entry `i` is vertex `base + i` with its sample -/
theorem mem_randAdj {base : Nat} {draws : List C.Draw} {p : VId × List VId} :
    p ∈ randAdj base draws.length draws ↔
      ∃ (i : Nat) (h : i < draws.length), p = (base + i, draws[i].sample.map (base + ·)) := by
  simp [randAdj, List.mem_iff_getElem, eq_comm]

theorem mem_mentions (adj : List (VId × List VId)) (x : VId) :
    x ∈ mentions adj ↔ ∃ p ∈ adj, x = p.1 ∨ x ∈ p.2 := by
  simp [mentions, List.mem_flatMap]

theorem mem_dictPairs (adj : List (VId × List VId)) (q : VId × VId) :
    q ∈ dictPairs adj ↔ ∃ p ∈ adj, ∃ v ∈ p.2, q = (p.1, v) := by
  simp only [dictPairs, List.mem_flatMap, List.mem_map, eq_comm]

theorem pair_mem_mentions (adj : List (VId × List VId)) (q : VId × VId) (hq : q ∈ dictPairs adj) :
    q.1 ∈ mentions adj ∧ q.2 ∈ mentions adj := by
  obtain ⟨p, hp, v, hv, rfl⟩ := (mem_dictPairs adj q).mp hq
  exact ⟨(mem_mentions adj _).mpr ⟨p, hp, Or.inl rfl⟩, (mem_mentions adj _).mpr ⟨p, hp, Or.inr hv⟩⟩

/-- admissible samples mention the new vertices and nothing else (`→` is the validity of the
    dict, `←` that every vertex is a key) -/
theorem mem_mentions_randAdj {base : Nat} {draws : List C.Draw}
    (hs : ∀ d ∈ draws, ∀ s ∈ d.sample, s < draws.length) (x : VId) :
    x ∈ mentions (randAdj base draws.length draws) ↔ base ≤ x ∧ x < base + draws.length := by
  rw [mem_mentions]
  constructor
  · rintro ⟨p, hp, hx⟩
    obtain ⟨i, h, rfl⟩ := mem_randAdj.mp hp
    obtain rfl | hx := hx
    · exact ⟨Nat.le_add_right _ _, Nat.add_lt_add_left h _⟩
    · obtain ⟨s, hsm, rfl⟩ := List.mem_map.mp hx
      exact ⟨Nat.le_add_right _ _, Nat.add_lt_add_left (hs _ (List.getElem_mem h) s hsm) _⟩
  · rintro ⟨h1, h2⟩
    exact ⟨_, mem_randAdj.mpr ⟨x - base, Nat.sub_lt_left_of_lt_add h1 h2, rfl⟩,
      Or.inl (Nat.add_sub_cancel' h1).symm⟩

theorem randgraph_spec {P : Prims} (hP : Plain P) (w : World) (count : Nat) (c : LCls)
    (conn : Option (Nat × Nat)) (ensure : Bool) (draws : List C.Draw) (h : Inv w)
    (hq : (conn.getD (5, count)).2 ≠ 0) (hlen : draws.length = count)
    (hok : C.drawsOK count (conn.getD (5, count)).1 (conn.getD (5, count)).2 ensure 0 draws = true) :
    ∃ w2 w', C.randgraph P w count c conn ensure draws = .ok (w', w.nV + count) ∧
      RV w w2 count 0 ∧
      Built' w2 w' c (dictPairs (randAdj w.nV count draws)) (mentions (randAdj w.nV count draws)) := by
  subst hlen
  obtain ⟨w2, e2, r⟩ := randVerts_S P draws.length 0 w h
  have hm : ∀ x ∈ mentions (randAdj w.nV draws.length draws), x < w2.nV := fun x hx => r.nV ▸
    ((mem_mentions_randAdj (fun d hd => (drawsOK_all _ _ _ _ _ 0 hok d hd).2) x).mp hx).2
  obtain ⟨w', e', hb⟩ := loadAdjDict_S hP w2 c _ r.inv fun p hp =>
    ⟨hm _ ((mem_mentions _ _).mpr ⟨p, hp, .inl rfl⟩),
      fun v hv => hm _ ((mem_mentions _ _).mpr ⟨p, hp, .inr hv⟩)⟩
  refine ⟨w2, w', ?_, r, hb⟩
  -- the guards pass and the dict handed on is `randAdj` by definition
  rw [← r.nV, ← e']
  simp [C.randgraph, hq, hok, e2, randAdj]

end B
end EG
