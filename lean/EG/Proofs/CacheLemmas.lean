import EG.Proofs.Inv
import EG.Proofs.QueryLemmas
/-
  EG.Proofs.CacheLemmas — the memo of `neighbors`.  `CacheOK`: every memoised answer is the
  recomputed one.  `SameGraph`: the world apart from the memos, a preorder.  A query writes nothing
  but a memo (`neighbors_sameGraph`, no hypothesis), and on correct memos it leaves them correct and
  answers the recomputation (`neighbors_memo`); `neighbors_spec` puts the two together: what one
  memoised call answers and keeps.  A mutator keeps `CacheOK` because it clears the memo of every
  vertex whose links, or whose links' ends, it writes (`cacheOK_of`, `cacheOK_write`, then mutator
  by mutator), hence every public call (`sim_cache`, `run_cache`).
-/
namespace EG

/-- every memoised answer equals the answer recomputed from the current graph — required
    WHETHER OR NOT the caching flag is on, because an entry written earlier becomes visible
    again when the flag is switched back on -/
def CacheOK (F : Nat → LId → Option VId → Bool) (w : World) : Prop :=
  ∀ v key ans, M.cacheLookup key (w.cache v) = some ans →
    M.neighborsPure w F v key.dir key.unk key.filt = .ok ans

section
variable (F : Nat → LId → Option VId → Bool)

/-- memo tables stay correct under any change that clears the memo of every vertex it
    touches: a vertex whose memo survives keeps its links, and they their class and ends -/
theorem cacheOK_of (w w' : World) (h : CacheOK F w)
    (hc : ∀ x, w'.cache x = [] ∨ (w'.cache x = w.cache x ∧ w'.links x = w.links x ∧
      ∀ l ∈ w.links x, w'.lcls l = w.lcls l ∧ w'.ends l = w.ends l)) : CacheOK F w' := by
  intro x key ans hk
  rcases hc x with h0 | ⟨h1, h2, h3⟩
  · rw [h0] at hk; simp [M.cacheLookup] at hk
  · rw [h1] at hk
    rw [neighborsPure_congr w w' F x _ _ _ h2 h3]
    exact h x key ans hk

theorem cacheOK_same (w w' : World) (h : CacheOK F w)
    (h1 : w'.cache = w.cache) (h2 : w'.links = w.links) (h3 : w'.lcls = w.lcls)
    (h4 : w'.ends = w.ends) : CacheOK F w' :=
  cacheOK_of F w w' h (fun x => Or.inr ⟨by rw [h1], by rw [h2], fun l _ => ⟨by rw [h3], by rw [h4]⟩⟩)

theorem cacheOK_init : CacheOK F World.init := by
  intro v key ans h; simp [World.init, M.cacheLookup] at h

end

/-- everything observable except the contents of the neighbor memo -/
def SameGraph (w w' : World) : Prop :=
  w'.nV = w.nV ∧ w'.nL = w.nL ∧ w'.nW = w.nW ∧ w'.vcls = w.vcls ∧ w'.links = w.links ∧ w'.ends = w.ends ∧
  w'.lcls = w.lcls ∧ w'.members = w.members ∧ w'.unis = w.unis ∧ w'.laws = w.laws ∧
  w'.appliesTo = w.appliesTo ∧ w'.rules = w.rules ∧ w'.attrs = w.attrs ∧ w'.caching = w.caching

theorem SameGraph.cache (w : World) (c : VId → List (Key × List (Option VId))) :
    SameGraph w { w with cache := c } :=
  ⟨rfl, rfl, rfl, rfl, rfl, rfl, rfl, rfl, rfl, rfl, rfl, rfl, rfl, rfl⟩

theorem SameGraph.refl (w : World) : SameGraph w w := .cache w w.cache

theorem SameGraph.eq_cache {w w' : World} (g : SameGraph w w') :
    w' = { w with cache := w'.cache } := by
  cases w; cases w'; simp_all [SameGraph]

theorem SameGraph.trans {a b c : World} (h1 : SameGraph a b) (h2 : SameGraph b c) : SameGraph a c := by
  rw [h2.eq_cache, h1.eq_cache]; exact .refl a

theorem SameGraph.neighborsPure {w w' : World} (h : SameGraph w w')
    (F : Nat → LId → Option VId → Bool) (v : VId) (dir unk : Nat) (filt : Option Nat) :
    M.neighborsPure w' F v dir unk filt = M.neighborsPure w F v dir unk filt := by
  rw [h.eq_cache]
  exact neighborsPure_congr _ _ F v dir unk filt rfl fun _ _ => ⟨rfl, rfl⟩

theorem neighbors_sameGraph (F : Nat → LId → Option VId → Bool) (w : World) (v : VId) (dir unk : Nat)
    (filt fault : Option Nat) : SameGraph w (M.neighbors w F v dir unk filt fault).1 :=
  M.neighbors_keeps (I := SameGraph w) (fun _ _ h => h) w v dir unk filt fault (.refl w)

theorem cacheOK_flagOff (F : Nat → LId → Option VId → Bool) (w : World) (h : CacheOK F w) :
    CacheOK F { w with caching := false } :=
  cacheOK_same F w _ h rfl rfl rfl rfl

/-- the invariant does not read the memo -/
theorem inv_of_sameGraph {w w' : World} (h : Inv w) (g : SameGraph w w') : Inv w' := by
  rw [g.eq_cache]; exact h

/-- `neighbors` and `find_links`, as calls of the alphabet, keep the graph -/
theorem M.step_sameGraph (F : Nat → LId → Option VId → Bool) (w : World) (op : Op)
    (hop : match op with | .neighbors .. | .findLinks .. => True | _ => False) :
    SameGraph w (M.step F w op).1 := by
  cases op <;> first | exact hop.elim | skip
  case neighbors v dir unk filt fault =>
    rw [M.step, C.step_neighbors]
    cases w.vOK v
    · exact .refl w
    · exact neighbors_sameGraph ..
  case findLinks a b ds unk filt fault => rw [M.step, C.step_findLinks]; exact .refl w

variable (F : Nat → LId → Option VId → Bool)

/-- a stored answer that is the recomputed one keeps the memos correct -/
theorem cacheOK_store {w : World} (h : CacheOK F w) (v : VId) (key : Key) (ans : List (Option VId))
    (ha : M.neighborsPure w F v key.dir key.unk key.filt = .ok ans) :
    CacheOK F { w with cache := upd w.cache v ((key, ans) :: w.cache v) } := by
  intro x k a hk
  rw [(SameGraph.cache w _).neighborsPure]
  by_cases hx : x = v
  · subst hx
    simp only [upd_same, M.cacheLookup] at hk
    split at hk
    · rename_i hkey
      cases hk
      subst hkey
      exact ha
    · exact h x k a hk
  · simp only [upd_other _ _ _ _ hx] at hk
    exact h x k a hk

/-- one memoised query on correct memos, whether or not its filter raises at some invocation
    (`fault`): the memos stay correct, those of the other vertices are not touched, and without a
    fault the answer is the recomputed one.  (That the graph stays needs no hypothesis:
    `neighbors_sameGraph`.) -/
theorem neighbors_memo (w : World) (v : VId) (dir unk : Nat) (filt fault : Option Nat)
    (h : CacheOK F w) :
    let r := M.neighbors w F v dir unk filt fault
    CacheOK F r.1 ∧ (∀ x, x ≠ v → r.1.cache x = w.cache x) ∧
      (fault = none → r.2 = M.neighborsPure w F v dir unk filt) := by
  rw [C.neighbors_eq]
  cases w.caching && !M.unhashable filt
  · exact ⟨h, fun _ _ => rfl, fun hf => by subst hf; rfl⟩
  · cases hl : M.cacheLookup ⟨dir, unk, filt⟩ (w.cache v) with
    | some a => exact ⟨h, fun _ _ => rfl, fun _ => (h v _ a hl).symm⟩
    | none =>
      -- an injected fault is either not reached, and the loop is the recomputation, or raised
      rcases M.nbLoop_fault w F v dir unk filt fault (w.links v) [] 0 with e | e <;> rw [e]
      · cases hp : M.nbLoop w F v dir unk filt none (w.links v) [] 0 with
        | error _ => exact ⟨h, fun _ _ => rfl, fun _ => hp.symm⟩
        | ok ans =>
          exact ⟨cacheOK_store F h v ⟨dir, unk, filt⟩ ans hp, fun x hx => upd_other _ _ _ _ hx,
            fun _ => hp.symm⟩
      · exact ⟨h, fun _ _ => rfl, fun hf => by subst hf; exact e.symm⟩

/-- one memoised query on a world that has the graph of `w₀` and correct memos answers as the
    memo-free query on `w₀` and leaves such a world: what every traversal, search and renderer
    carries from call to call -/
theorem neighbors_spec {w₀ w : World} (hg : SameGraph w₀ w) (hc : CacheOK F w) (v : VId)
    (dir unk : Nat) (filt : Option Nat) :
    (M.neighbors w F v dir unk filt none).2 = M.neighborsPure w₀ F v dir unk filt ∧
    SameGraph w₀ (M.neighbors w F v dir unk filt none).1 ∧
    CacheOK F (M.neighbors w F v dir unk filt none).1 :=
  have hm := neighbors_memo F w v dir unk filt none hc
  ⟨(hm.2.2 rfl).trans (hg.neighborsPure F v dir unk filt),
    hg.trans (neighbors_sameGraph F w v dir unk filt none), hm.1⟩

/-- The invalidation discipline of the link mutators: the memo of `x` is cleared (`C x`) whenever
    `links x` is written, or the ends of a link that lists `x`.  On a symmetric world that is enough:
    a link of `x` lists `x`, so what a surviving memo of `x` was computed from is still there. -/
theorem cacheOK_write (w : World) (L : VId → List LId)
    (E : LId → List (Option VId)) (C : VId → Prop) [DecidablePred C] (hs : Sym w) (h : CacheOK F w)
    (hw : ∀ x, ¬ C x → L x = w.links x ∧ ∀ l, some x ∈ w.ends l → E l = w.ends l) :
    CacheOK F { w with links := L, ends := E, cache := fun x => if C x then [] else w.cache x } := by
  refine cacheOK_of F w _ h fun x => ?_
  by_cases hc : C x
  · exact .inl (if_pos hc)
  · exact .inr ⟨if_neg hc, (hw x hc).1, fun l hl => ⟨rfl, (hw x hc).2 l ((hs.iff x l).mp hl)⟩⟩

namespace S

/-! For each link mutator: neither `if` of its closed form fires at a vertex `x` whose memo
    survives (`hc`), because its condition would put `x` among the vertices cleared. -/

theorem addToLink_cache (w : World) (v : VId) (l : LId)
    (hs : Sym w) (h : CacheOK F w) : CacheOK F (S.addToLink w v l) := by
  refine cacheOK_write F w _ _ _ hs h fun x hc => ⟨?_, fun l' hl' => ?_⟩ <;> rw [if_neg]
  · exact fun e => hc (.inl e.1)
  · exact fun e => hc (.inr ⟨e.2.1, e.2.2, e.1 ▸ hl'⟩)

theorem addVertex_cache (w : World) (l : LId)
    (new : Option VId) (hs : Sym w) (h : CacheOK F w) : CacheOK F (S.addVertex w l new) := by
  refine cacheOK_write F w _ _ _ hs h fun x hc => ⟨?_, fun l' hl' => ?_⟩ <;> rw [if_neg]
  · exact fun e => hc (List.mem_append_right _ (List.mem_singleton.mpr e.1))
  · exact fun e => hc (List.mem_append_left _ (e ▸ hl'))

theorem removeFromLink_cache (w : World) (v : VId) (l : LId)
    (hs : Sym w) (h : CacheOK F w) : CacheOK F (S.removeFromLink w v l) := by
  refine cacheOK_write F w _ _ _ hs h fun x hc => ⟨?_, fun l' hl' => ?_⟩ <;> rw [if_neg]
  · exact fun e => hc (.inl e)
  · -- the ends of `l` are written only if `l` is a link of `v`, and then it lists `v`
    exact fun e => hc (.inr ⟨e.2, (hs.iff v l).mp e.2, e.1 ▸ hl'⟩)

theorem unlinkFrom_cache (w : World) (l : LId)
    (kill : Option VId) (hs : Sym w) (h : CacheOK F w) : CacheOK F (S.unlinkFrom w l kill) := by
  cases kill with
  | none =>
    refine cacheOK_write F w _ _ _ hs h fun x hc => ⟨rfl, fun l' hl' => ?_⟩
    -- if `l` itself lists `x`, it lists no `None` (else `x` was cleared): nothing is erased
    by_cases e : l' = l
    · subst e; rw [if_pos rfl, List.erase_of_not_mem fun hn => hc ⟨hn, hl'⟩]
    · rw [if_neg e]
  | some k =>
    refine cacheOK_write F w _ _ _ hs h fun x hc => ⟨?_, fun l' hl' => ?_⟩
    · rw [if_neg]; exact fun e => hc ⟨e.2, e.1 ▸ e.2⟩
    by_cases e : l' = l
    · subst e; rw [if_pos rfl, filter_ne_self _ _ fun hn => hc ⟨hn, hl'⟩]
    · rw [if_neg e]

theorem replaceEnd_cache (w : World) (l : LId) (idx : Nat)
    (new : Option VId) (hi : idx < (w.ends l).length) (hs : Sym w) (h : CacheOK F w) :
    CacheOK F (S.replaceEnd w l idx new) := by
  refine cacheOK_write F w _ _ _ hs h fun x hc => ⟨?_, fun l' hl' => ?_⟩
  · -- `x` is neither the end replaced (listed before) nor the new one (listed after)
    have hold : some x ≠ (w.ends l).getD idx none := fun e => hc (Or.inl (by
      rw [e, List.getD_eq_getElem?_getD, List.getElem?_eq_getElem hi]; exact List.getElem_mem hi))
    have hn : some x ≠ new := fun e => hc (Or.inr (e ▸ List.mem_set hi new))
    simp only [hold, hn, false_and, if_false]
  · rw [if_neg]; exact fun e => hc (.inl (e ▸ hl'))

theorem setLaws_cache (w : World) (u : VId) (x : Option WId)
    (h : CacheOK F w) : CacheOK F (S.setLaws w u x) := by
  unfold S.setLaws
  -- (`split` on this `if` between two worlds is six times as dear to check)
  by_cases hx : x = w.laws u
  · rw [if_pos hx]; exact h
  · rw [if_neg hx]; exact cacheOK_same F w _ h rfl rfl rfl rfl

theorem setAppliesTo_cache (w : World) (L : WId)
    (x : Option VId) (h : CacheOK F w) : CacheOK F (S.setAppliesTo w L x) := by
  unfold S.setAppliesTo
  by_cases hx : x = w.appliesTo L
  · rw [if_pos hx]; exact h
  · rw [if_neg hx]; exact cacheOK_same F w _ h rfl rfl rfl rfl

end S

theorem allocLink_cache (w : World) (c : LCls) (hi : Inv w) (h : CacheOK F w) :
    CacheOK F (M.allocLink w c).1 := by
  refine cacheOK_of F w _ h (fun x => Or.inr ⟨rfl, rfl, ?_⟩)
  intro l hl
  have hne : l ≠ w.nL := fun e => hi.nL_not_mem x (e ▸ hl)
  simp only [M.allocLink, upd, hne, if_false, and_self]

theorem allocVertex_cache (w : World) (c : VCls)
    (attrs : List (Nat × Nat)) (us : List VId) (h : CacheOK F w) :
    CacheOK F (M.allocVertex w c attrs us).1 := by
  refine cacheOK_of F w _ h ?_
  intro x
  by_cases hx : x = w.nV
  · left; subst hx; simp [M.allocVertex]
  · right; simp [M.allocVertex, upd, hx]

theorem invalidate_cache (w : World) (v : VId)
    (h : CacheOK F w) : CacheOK F (w.invalidate v) := by
  refine cacheOK_of F w _ h ?_
  intro x
  by_cases hx : x = v
  · left; subst hx; simp [World.invalidate]
  · right; simp [World.invalidate, upd, hx]

namespace C

theorem newVertex_cache (w : World) (c : VCls)
    (attrs : List (Nat × Nat)) (ls : List LId) (us : List VId) (hi : Inv w)
    (h : CacheOK F w) (w' : World) (v : VId)
    (e : newVertex S.prims w c attrs ls us = .ok (w', v)) : CacheOK F w' := by
  rw [newVertex_S_eq] at e
  cases e
  have := foldl_inv (fun w' l => S.addToLink w' w.nV l) (fun w' => Sym w' ∧ CacheOK F w') ls
    (fun w' l h _ => ⟨S.addToLink_sym _ _ _ h.1, S.addToLink_cache F _ _ _ h.1 h.2⟩) _
    ⟨(allocVertex_pre w c attrs us hi).1, allocVertex_cache F w c attrs us h⟩
  -- joining the universes writes `members` only
  exact invalidate_cache F _ _ (cacheOK_same F _ _ this.2 rfl rfl rfl rfl)

end C

/-- the invariant together with correct memo tables: `sim_inv` with, for each primitive of the
    reference model, the fact that it clears the memo of every vertex it touches -/
theorem sim_cache :
    Sim M.prims S.prims (fun w => Inv w ∧ CacheOK F w) where
  addToLink w v l h hv hl := (sim_inv.addToLink w v l h.1 hv hl).and fun _ e => by
    cases e; exact S.addToLink_cache F w v l h.1.sym h.2
  addVertex w l x h hl hx := (sim_inv.addVertex w l x h.1 hl hx).and fun _ e => by
    cases e; exact S.addVertex_cache F w l x h.1.sym h.2
  removeFromLink w v l h := (sim_inv.removeFromLink w v l h.1).and fun _ e => by
    cases e; exact S.removeFromLink_cache F w v l h.1.sym h.2
  unlinkFrom w l x h := (sim_inv.unlinkFrom w l x h.1).and fun _ e => by
    cases e; exact S.unlinkFrom_cache F w l x h.1.sym h.2
  replaceEnd w l i x h hl hi hx := (sim_inv.replaceEnd w l i x h.1 hl hi hx).and fun _ e => by
    cases e; exact S.replaceEnd_cache F w l i x hi h.1.sym h.2
  uniAddVertex w u v h hu hv := (sim_inv.uniAddVertex w u v h.1 hu hv).and fun _ e => by
    cases e; exact cacheOK_same F w _ h.2 rfl rfl rfl rfl
  addToUniverse w v u h hu hv := (sim_inv.addToUniverse w v u h.1 hu hv).and fun _ e => by
    cases e; exact cacheOK_same F w _ h.2 rfl rfl rfl rfl
  uniRemoveVertex w u v h := (sim_inv.uniRemoveVertex w u v h.1).and fun _ e =>
    S.prims_uniRemoveVertex_ok e ▸ cacheOK_same F w _ h.2 rfl rfl rfl rfl
  removeFromUniverse w v u h := (sim_inv.removeFromUniverse w v u h.1).and fun _ e =>
    S.prims_removeFromUniverse_ok e ▸ cacheOK_same F w _ h.2 rfl rfl rfl rfl
  setLaws w u x h hu hx := (sim_inv.setLaws w u x h.1 hu hx).and fun _ e => by
    cases e; exact S.setLaws_cache F w u x h.2
  setAppliesTo w L x h hL hx := (sim_inv.setAppliesTo w L x h.1 hL hx).and fun _ e => by
    cases e; exact S.setAppliesTo_cache F w L x h.2
  newVertex w c attrs ls us h hls hus :=
    have hi := sim_inv.newVertex w c attrs ls us h.1 hls hus
    ⟨hi.1, fun w' v e => ⟨hi.2 w' v e, C.newVertex_cache F w c attrs ls us h.1 h.2 w' v e⟩⟩
  allocLink w c h := ⟨allocLink_inv w c h.1, allocLink_cache F w c h.1 h.2⟩
  allocLaws w r h := ⟨allocLaws_inv w r h.1, cacheOK_same F w _ h.2 rfl rfl rfl rfl⟩
  allocUni w attrs h := ⟨allocVertex_inv_nil w .UNI attrs h.1,
    invalidate_cache F _ _ (allocVertex_cache F w .UNI attrs [] h.2)⟩
  flag w on h := ⟨h.1, cacheOK_same F w _ h.2 rfl rfl rfl rfl⟩

theorem neighbors_inv_cache (w : World) (v : VId)
    (dir unk : Nat) (filt fault : Option Nat) (h : Inv w ∧ CacheOK F w) :
    Inv (M.neighbors w F v dir unk filt fault).1 ∧
      CacheOK F (M.neighbors w F v dir unk filt fault).1 :=
  ⟨neighbors_inv F w v dir unk filt fault h.1, (neighbors_memo F w v dir unk filt fault h.2).1⟩

theorem run_cache (ops : List Op) :
    CacheOK F (M.run F ops).1 :=
  have h := C.runFrom_sim S.prims_framePres (neighbors_inv_cache F) (sim_cache F) ops World.init
    ⟨inv_init, cacheOK_init F⟩
  (show M.run F ops = S.runFrom F World.init ops from h.1) ▸ h.2.2

end EG
