import EG.Copy
import EG.Proofs.QueryLemmas
/-
  Helper lemmas for EG/Props/C05Copy.lean: `neighbors` on an isomorphic copy of a world.
-/
namespace EG

theorem mem_map_inv {α : Type} {f g : α → α} (hfg : ∀ x, g (f x) = x) (hgf : ∀ x, f (g x) = x)
    (x : α) (xs : List α) : x ∈ xs.map f ↔ g x ∈ xs := by
  simp only [List.mem_map]
  exact ⟨by rintro ⟨a, ha, rfl⟩; rwa [hfg], fun h => ⟨_, h, hgf x⟩⟩

theorem nodup_map_inv {α : Type} {f g : α → α} (hfg : ∀ x, g (f x) = x) {xs : List α}
    (h : xs.Nodup) : (xs.map f).Nodup :=
  List.Pairwise.map f (fun a b hne e => hne (by rw [← hfg a, e, hfg])) h

theorem optmap_inv {f g : VId → VId} (hfg : ∀ x, g (f x) = x) (a : Option VId) :
    (a.map f).map g = a := by
  cases a <;> simp [hfg]

variable (r : Renaming)

theorem optmap_eq_some {r : Renaming} (hb : r.Bij) (a : Option VId) (v : VId) :
    (a.map r.ρ = some (r.ρ v)) ↔ (a = some v) :=
  ⟨fun h => by simpa [optmap_inv hb.vl, hb.vl] using congrArg (Option.map r.ρ') h, fun h => h ▸ rfl⟩

theorem copy_lcls (hb : r.Bij) (w : World) (flag : Bool) (l : LId) :
    (w.copy r flag).lcls (r.σ l) = w.lcls l := by
  simp only [World.copy, hb.ll]

theorem copy_ends (hb : r.Bij) (w : World) (flag : Bool) (l : LId) :
    (w.copy r flag).ends (r.σ l) = (w.ends l).map (Option.map r.ρ) := by
  simp only [World.copy, hb.ll]

theorem copy_links (hb : r.Bij) (w : World) (flag : Bool) (v : VId) :
    (w.copy r flag).links (r.ρ v) = (w.links v).map r.σ := by
  simp only [World.copy, hb.vl]

theorem copy_cache (hb : r.Bij) (w : World) (flag : Bool) (v : VId) :
    (w.copy r flag).cache (r.ρ v) = (w.cache v).map (fun e => (e.1, r.ans e.2)) := by
  simp only [World.copy, hb.vl]

theorem otherOf_copy (hb : r.Bij) (a b : Option VId) (v : VId) :
    otherOf (a.map r.ρ) (b.map r.ρ) (r.ρ v) = (otherOf a b v).map r.ρ := by
  simp only [otherOf, optmap_eq_some hb, apply_ite (Option.map r.ρ), Option.map_none]

theorem pre_copy (hb : r.Bij) (k : Kind) (a b : Option VId) (v : VId) (dir unk : Nat) :
    M.pre k (a.map r.ρ) (b.map r.ρ) (r.ρ v) dir unk = M.pre k a b v dir unk :=
  M.pre_congr (optmap_eq_some hb a v) (optmap_eq_some hb b v)

theorem copyF_apply (hb : r.Bij) (F : Nat → LId → Option VId → Bool) (k : Nat) (l : LId) (x : Option VId) :
    copyF r F k (r.σ l) (x.map r.ρ) = F k l x := by
  simp only [copyF, hb.ll, optmap_inv hb.vl]

theorem nbOne_copy (hb : r.Bij) (w : World) (flag : Bool) (F : Nat → LId → Option VId → Bool)
    (v : VId) (dir unk : Nat) (filt : Option Nat) (l : LId) :
    M.nbOne (w.copy r flag) (copyF r F) (r.ρ v) dir unk filt (r.σ l) =
      match M.nbOne w F v dir unk filt l with
      | .emit x => .emit (x.map r.ρ) | .skip => .skip | .raise e => .raise e := by
  simp only [M.nbOne, copy_lcls r hb, copy_ends r hb]
  split
  · rfl
  · cases w.ends l with
    | nil => rfl
    | cons a t =>
      cases t with
      | nil => rfl
      | cons b t' =>
        have : M.accepts (copyF r F) filt (r.σ l) ((otherOf a b v).map r.ρ) =
            M.accepts F filt l (otherOf a b v) := by
          cases filt <;> simp only [M.accepts, copyF_apply r hb]
        simp only [List.map_cons, pre_copy r hb, otherOf_copy r hb, this]
        generalize M.pre _ _ _ v dir unk = p
        cases p <;> cases M.accepts F filt l (otherOf a b v) <;> rfl

theorem neighborsPure_copy (hb : r.Bij) (w : World) (flag : Bool) (F : Nat → LId → Option VId → Bool)
    (v : VId) (dir unk : Nat) (filt : Option Nat) :
    M.neighborsPure (w.copy r flag) (copyF r F) (r.ρ v) dir unk filt
      = (M.neighborsPure w F v dir unk filt).map r.ans := by
  rw [M.neighborsPure_eq, M.neighborsPure_eq, copy_links r hb]
  exact M.nbFold_map _ fun l _ => nbOne_copy r hb w flag F v dir unk filt l

theorem cacheLookup_copy (key : Key) (c : List (Key × List (Option VId))) :
    M.cacheLookup key (c.map (fun e => (e.1, r.ans e.2))) = (M.cacheLookup key c).map r.ans := by
  induction c with
  | nil => rfl
  | cons e c ih =>
    simp only [List.map_cons, M.cacheLookup, ih, apply_ite (Option.map r.ans), Option.map_some]

end EG
