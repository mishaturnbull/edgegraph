import EG.Step
/-
  EG.Proofs.Fold — the compound operations unfolded once: the list loops as one option-valued fold
  (agreement, invariant, `List.foldl` when total); `Universe.__init__` as laws on `preLaws` then a
  loop (`newUniverse_unfold`); end assignment on S (`setEnd_S`).
-/
namespace EG

/-- left fold of an option-valued body, stopping at the first `none` -/
def foldOpt {α : Type} (f : World → α → Option World) (w : World) : List α → Option World
  | [] => some w
  | x :: xs => match f w x with
    | none => none
    | some w => foldOpt f w xs

/-- two folds whose bodies agree wherever `R` holds, the second keeping `R`, have the same result,
    and `R` holds of it (`f = g`: `R` is an invariant of the fold) -/
theorem foldOpt_sim {α : Type} (f g : World → α → Option World) (R : World → Prop) (xs : List α)
    (h : ∀ w x, R w → x ∈ xs → f w x = g w x ∧ ∀ w', g w x = some w' → R w') :
    ∀ w, R w → foldOpt f w xs = foldOpt g w xs ∧ ∀ w', foldOpt g w xs = some w' → R w' := by
  induction xs with
  | nil => exact fun w hw => ⟨rfl, fun w' e => by cases e; exact hw⟩
  | cons x xs ih =>
    intro w hw
    obtain ⟨e, hk⟩ := h w x hw (by simp)
    simp only [foldOpt, e]
    cases hg : g w x with
    | none => exact ⟨rfl, fun _ e' => by cases e'⟩
    | some w1 => exact ih (fun w y hw hy => h w y hw (by simp [hy])) w1 (hk w1 hg)

theorem foldOpt_total {α : Type} (g : World → α → World) (xs : List α) :
    ∀ w, foldOpt (fun w x => some (g w x)) w xs = some (xs.foldl g w) := by
  induction xs with
  | nil => intro w; rfl
  | cons x xs ih => intro w; simp only [foldOpt, List.foldl_cons]; exact ih _

/-- a loop with the two equations of `foldOpt` is `foldOpt` -/
theorem eq_foldOpt {α : Type} (loop : World → List α → Option World) (f : World → α → Option World)
    (h0 : ∀ w, loop w [] = some w)
    (h1 : ∀ w x xs, loop w (x :: xs) =
      match f w x with
      | none => none
      | some w' => loop w' xs) :
    ∀ xs w, loop w xs = foldOpt f w xs := by
  intro xs
  induction xs with
  | nil => exact h0
  | cons x xs ih =>
    intro w
    rw [h1, foldOpt]
    cases f w x with
    | none => rfl
    | some w' => exact ih w'

namespace C

theorem addVertices_eq_fold (P : Prims) (l : LId) (xs : List (Option VId)) :
    ∀ w, addVertices P w l xs = foldOpt (fun w x => P.addVertex w l x) w xs :=
  eq_foldOpt (addVertices P · l ·) _ (fun _ => rfl)
    (fun _ _ _ => rfl) xs

theorem addToLinks_eq_fold (P : Prims) (v : VId) (ls : List LId) :
    ∀ w, addToLinks P w v ls = foldOpt (fun w l => P.addToLink w v l) w ls :=
  eq_foldOpt (addToLinks P · v ·) _ (fun _ => rfl)
    (fun _ _ _ => rfl) ls

theorem uniAddVertices_eq_fold (P : Prims) (u : VId) (vs : List VId) :
    ∀ w, uniAddVertices P w u vs = foldOpt (fun w v => P.uniAddVertex w u v) w vs :=
  eq_foldOpt (uniAddVertices P · u ·) _ (fun _ => rfl)
    (fun _ _ _ => rfl) vs

theorem joinUniverses_eq_fold (P : Prims) (v : VId) (us : List VId) :
    ∀ w, joinUniverses P w v us = foldOpt (fun w u => P.uniAddVertex w u v) w us :=
  eq_foldOpt (joinUniverses P · v ·) _ (fun _ => rfl)
    (fun _ _ _ => rfl) us

def unlinkBoth (P : Prims) (a b : VId) (w : World) (l : LId) : Option World :=
  (P.unlinkFrom w l (some a)).bind fun w => P.unlinkFrom w l (some b)

theorem unlinkEach_eq_fold (P : Prims) (a b : VId) (ls : List LId) :
    ∀ w, unlinkEach P w a b ls = foldOpt (unlinkBoth P a b) w ls :=
  eq_foldOpt (unlinkEach P · a b ·) _ (fun _ => rfl) (fun w x xs => by
    simp only [unlinkEach, unlinkBoth]
    cases P.unlinkFrom w x (some a) with
    | none => rfl
    | some w' => cases P.unlinkFrom w' x (some b) <;> rfl) ls

end C

/-- the world on which `Universe.__init__` assigns the laws, and the law set it assigns -/
def preLaws (w : World) (attrs : List (Nat × Nat)) (L : Option WId) : World × WId :=
  match L with
  | some L => (((M.allocVertex w .UNI attrs []).1.invalidate w.nV), L)
  | none => M.allocLaws ((M.allocVertex w .UNI attrs []).1.invalidate w.nV)

namespace C

theorem newUniverse_unfold (P : Prims) (w : World) (attrs : List (Nat × Nat)) (vs : List VId)
    (L : Option WId) :
    newUniverse P w attrs vs L =
      match P.setLaws (preLaws w attrs L).1 w.nV (some (preLaws w attrs L).2) with
      | none => .error .recursion
      | some w' =>
        match uniAddVertices P w' w.nV vs with
        | none => .error .recursion
        | some w'' => .ok (w'', w.nV) := by
  cases L <;> rfl

theorem setEnd_S (w : World) (l : LId) (i : Nat) (x : Option VId) :
    setEnd S.prims w l i x =
      if (w.ends l).length < 2 then .error .index else .ok (S.replaceEnd w l i x) := rfl

end C
end EG
