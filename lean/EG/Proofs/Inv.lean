import EG.Proofs.InvComp
import EG.Proofs.Rules
/-
  EG.Proofs.Inv — M against S under the invariant of reachable worlds, as an instance of `Sim`
  (`sim_inv`): `step_agree`, `step_inv`, `run_agree`; end assignment through the step
  (`step_setEnd`, for C03); and C02's frame as another instance (`C.step_membership`).
-/
namespace EG

theorem sim_inv : Sim M.prims S.prims Inv where
  addToLink w v l h hv hl := .of_total (agree_addToLink w v l) (S.addToLink_inv w v l h hv hl)
  addVertex w l x h hl hx := .of_total (agree_addVertex w l x) (S.addVertex_inv w l x h hl hx)
  removeFromLink w v l h :=
    .of_total (agree_removeFromLink w v l h.sym) (S.removeFromLink_inv w v l h)
  unlinkFrom w l x h := .of_total (agree_unlinkFrom w l x h.sym) (S.unlinkFrom_inv w l x h)
  replaceEnd w l i x h hl hi hx :=
    .of_total (agree_replaceEnd w l i x h.sym hi) (S.replaceEnd_inv w l i x h hi hl hx)
  uniAddVertex w u v h hu hv :=
    .of_total (agree_uniAddVertex w u v) (S.uniAddVertex_inv w u v h hu hv)
  addToUniverse w v u h hu hv :=
    .of_total (agree_addToUniverse w v u) (S.addToUniverse_inv w v u h hu hv)
  uniRemoveVertex w u v h := ⟨agree_uniRemoveVertex w u v h.usym, fun _ e =>
    S.prims_uniRemoveVertex_ok e ▸ S.uniRemoveVertex_inv w u v h⟩
  removeFromUniverse w v u h := ⟨agree_removeFromUniverse w v u h.usym, fun _ e =>
    S.prims_removeFromUniverse_ok e ▸ S.removeFromUniverse_inv w v u h⟩
  setLaws w u x h hu hx := .of_total (agree_setLaws w u x h.lawSym) (S.setLaws_inv w u x h hu hx)
  setAppliesTo w L x h hL hx :=
    .of_total (agree_setAppliesTo w L x h.lawSym) (S.setAppliesTo_inv w L x h hL hx)
  newVertex w c attrs ls us h hls hus := ⟨C.newVertex_agree w c attrs ls us, fun w' v e => by
    obtain ⟨w'', e', hi, _⟩ := C.newVertex_S w c attrs ls us h hls hus
    rw [e'] at e
    cases e
    exact hi⟩
  allocLink w c h := allocLink_inv w c h
  allocLaws w r h := allocLaws_inv w r h
  allocUni w attrs h := allocVertex_inv_nil w .UNI attrs h
  flag w on h := h

theorem neighbors_inv (F : Nat → LId → Option VId → Bool) (w : World) (v : VId) (dir unk : Nat)
    (filt fault : Option Nat) (h : Inv w) : Inv (M.neighbors w F v dir unk filt fault).1 :=
  M.neighbors_keeps (fun _ _ h => h) w v dir unk filt fault h

theorem step_agree (F : Nat → LId → Option VId → Bool) (w : World) (op : Op) (h : Inv w) :
    M.step F w op = S.step F w op :=
  (C.step_sim S.prims_framePres (neighbors_inv F) sim_inv w op h).1

theorem step_inv (F : Nat → LId → Option VId → Bool) (w : World) (op : Op) (h : Inv w) :
    Inv (S.step F w op).1 :=
  (C.step_sim S.prims_framePres (neighbors_inv F) sim_inv w op h).2

theorem run_agree (F : Nat → LId → Option VId → Bool) (ops : List Op) :
    M.run F ops = S.run F ops ∧ Inv (M.run F ops).1 :=
  have h := C.runFrom_sim S.prims_framePres (neighbors_inv F) sim_inv ops World.init inv_init
  ⟨h.1, (show M.run F ops = S.runFrom F World.init ops from h.1) ▸ h.2⟩

theorem step_setEnd (F : Nat → LId → Option VId → Bool) (w : World) (l : LId) (x : Option VId)
    (idx : Nat) (hidx : idx = 0 ∨ idx = 1)
    (h : Inv w) (hl : w.twoEnded l = true) (hx : w.ovOK x = true) (hlen : 2 ≤ (w.ends l).length) :
    (M.step F w (if idx = 0 then .setV1 l x else .setV2 l x)).1 = S.replaceEnd w l idx x := by
  have hlen' : ¬ (w.ends l).length < 2 := by omega
  rw [step_agree F w _ h]
  rcases hidx with rfl | rfl <;>
    simp [S.step, C.step, hl, hx, C.setEnd_S, hlen', C.ofExc]

/-- those operations call no membership primitive, and no other primitive writes `members`
    or `unis` -/
theorem C.step_membership {P : Prims} (hP : FramePres P) (F : Nat → LId → Option VId → Bool)
    (w : World) (op : Op) (hop : op.nonMembership) :
    (C.step P F w op).1.members = w.members ∧ (C.step P F w op).1.unis = w.unis :=
  have hC : SimCore P P (fun w' => w'.members = w.members ∧ w'.unis = w.unis) :=
    .ofFrames hP (fun f h => ⟨f.members.trans h.1, f.unis.trans h.2⟩)
      (fun f h => ⟨f.members.trans h.1, f.unis.trans h.2⟩) (fun _ _ h => h) (fun _ _ h => h)
      (fun _ _ h => h)
  (C.step_core hP (M.neighbors_keeps fun _ _ h => h) hC w op hop ⟨rfl, rfl⟩).2

end EG
