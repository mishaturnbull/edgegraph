import EG.Proofs.InvPrims
import EG.Proofs.Fold
/-
  EG.Proofs.InvComp — `Inv` through the three allocations, and `newVertex` on the reference model:
  its loops as `foldl`s, the closed form `S.joined` of the join loop, `newVertex_S_eq`, and
  `PreU`, the symmetry-up-to-the-new-vertex that holds in between.
-/
namespace EG
namespace C

theorem newVertex_agree (w : World) (c : VCls) (attrs : List (Nat × Nat)) (ls : List LId)
    (us : List VId) : newVertex M.prims w c attrs ls us = newVertex S.prims w c attrs ls us := by
  simp only [newVertex, addToLinks_eq_fold, joinUniverses_eq_fold, agree_addToLink,
    agree_uniAddVertex]

theorem addToLinks_S_eq (w : World) (v : VId) (ls : List LId) :
    addToLinks S.prims w v ls = some (ls.foldl (fun w l => S.addToLink w v l) w) := by
  rw [addToLinks_eq_fold]
  exact foldOpt_total _ _ _

theorem addToLinks_S (w : World) (v : VId) (ls : List LId) (hs : Sym w) (hf : Fresh w)
    (hv : v < w.nV) (hls : ∀ l ∈ ls, l < w.nL) :
    Sym (ls.foldl (fun w l => S.addToLink w v l) w) ∧
      Fresh (ls.foldl (fun w l => S.addToLink w v l) w) ∧
      AssocFrame w (ls.foldl (fun w l => S.addToLink w v l) w) := by
  refine foldl_inv _ (fun w' => Sym w' ∧ Fresh w' ∧ AssocFrame w w') ls ?_ w
    ⟨hs, hf, AssocFrame.refl w⟩
  rintro w' x ⟨h1, h2, h3⟩ hx
  exact ⟨S.addToLink_sym _ _ _ h1,
    S.addToLink_fresh _ _ _ h2 (by rw [h3.nV]; exact hv) (by rw [h3.nL]; exact hls x hx),
    h3.trans (S.addToLink_frame _ _ _)⟩

end C

/-- closed form of `for uni in self.universes: uni.add_vertex(self)` -/
def S.joined (w : World) (v : VId) (us : List VId) : World :=
  { w with members := fun x => if x ∈ us ∧ v ∉ w.members x then w.members x ++ [v] else w.members x }

namespace C

theorem joinUniverses_S (v : VId) (us : List VId) : ∀ (w : World), (∀ u ∈ us, u ∈ w.unis v) →
    joinUniverses S.prims w v us = some (S.joined w v us) := by
  induction us with
  | nil => intro w _; simp only [joinUniverses, S.joined]; congr 1
  | cons u us ih =>
    intro w h
    simp only [joinUniverses]
    show joinUniverses S.prims (S.uniAddVertex w u v) v us = _
    have hu : u ∈ w.unis v := h u (by simp)
    have e : (S.uniAddVertex w u v).unis = w.unis := by
      funext x; simp [S.uniAddVertex, hu]
    rw [ih _ (by intro u' hu'; rw [e]; exact h u' (by simp [hu']))]
    congr 1
    -- `unis` is `e`, `members` is the one column that really differs, the rest is computation
    refine World.ext' rfl rfl rfl (fun _ => rfl) (fun _ => rfl) (congrFun e) (fun x => ?_)
      (fun _ => rfl) (fun _ => rfl) (fun _ => rfl) (fun _ => rfl) (fun _ => rfl) (fun _ => rfl) rfl
      (fun _ => rfl)
    simp [S.joined, S.uniAddVertex, hu]
    grind

theorem newVertex_S_eq (w : World) (c : VCls) (attrs : List (Nat × Nat)) (ls : List LId)
    (us : List VId) :
    newVertex S.prims w c attrs ls us =
      let w2 := ls.foldl (fun w' l => S.addToLink w' w.nV l) (M.allocVertex w c attrs us).1
      .ok ((S.joined w2 w.nV (w2.unis w.nV)).invalidate w.nV, w.nV) := by
  simp only [newVertex, M.allocVertex, addToLinks_S_eq, joinUniverses_S _ _ _ (fun u hu => hu)]

end C

theorem allocLink_inv (w : World) (c : LCls) (h : Inv w) : Inv (M.allocLink w c).1 := by
  obtain ⟨hs, hu, hl, hf⟩ := h
  have e : upd w.ends w.nL [] = w.ends := upd_eq_self (hf.ends (Nat.le_refl _))
  refine ⟨?_, hu, hl, ?_⟩
  · simpa only [Sym, M.allocLink, e] using hs
  · refine ⟨?_, hf.2.1, hf.2.2⟩
    intro l (hl : w.nL + 1 ≤ l)
    simp only [M.allocLink, e]
    exact hf.ends (by omega)

theorem allocLaws_inv (w : World) (r : Nat) (h : Inv w) : Inv (M.allocLaws w r).1 := by
  obtain ⟨hs, hu, hl, hf⟩ := h
  have e : upd w.appliesTo w.nW none = w.appliesTo := upd_eq_self (hf.lawSet (Nat.le_refl _))
  refine ⟨hs, hu, ?_, ?_⟩
  · simpa only [LawSym, M.allocLaws, e] using hl
  · refine ⟨hf.1, hf.2.1, ?_⟩
    intro l (hl : w.nW + 1 ≤ l)
    simp only [M.allocLaws, e]
    exact hf.lawSet (by omega)

/-- membership symmetry "up to the vertex `v` under construction": `v` already lists its
    universes but no universe lists `v` yet -/
def PreU (w : World) (v : VId) : Prop :=
  (∀ v' u, v' ≠ v → (v' ∈ w.members u ↔ u ∈ w.unis v')) ∧ (∀ u, v ∉ w.members u) ∧
  (∀ u, (w.members u).Nodup) ∧ ∀ v', (w.unis v').Nodup

theorem allocVertex_pre (w : World) (c : VCls) (attrs : List (Nat × Nat)) (us : List VId)
    (h : Inv w) :
    Sym (M.allocVertex w c attrs us).1 ∧ LawSym (M.allocVertex w c attrs us).1 ∧
    Fresh (M.allocVertex w c attrs us).1 ∧ PreU (M.allocVertex w c attrs us).1 w.nV := by
  obtain ⟨hs, hu, hl, hf⟩ := h
  obtain ⟨f1, f2, f3, f4⟩ := hf.vertex (Nat.le_refl w.nV)
  have e1 : upd w.links w.nV [] = w.links := upd_eq_self f1
  have e2 : upd w.members w.nV [] = w.members := upd_eq_self f3
  have e3 : upd w.laws w.nV none = w.laws := upd_eq_self f4
  refine ⟨?_, ?_, ?_, ?_⟩
  · simpa only [Sym, M.allocVertex, e1] using hs
  · simpa only [LawSym, M.allocVertex, e3] using hl
  · refine ⟨hf.1, ?_, hf.2.2⟩
    intro x (hx : w.nV + 1 ≤ x)
    have := hf.vertex (v := x) (by omega)
    have hne : x ≠ w.nV := by omega
    simp only [M.allocVertex, e1, e2, e3, upd, hne, if_false]; exact this
  · simp only [PreU, M.allocVertex, e2]
    refine ⟨?_, ?_, hu.nodupMembers, ?_⟩
    · intro v' u hne
      simp only [upd, hne, if_false]
      exact hu.iff v' u
    · intro u hm
      rw [hu.iff, f2] at hm
      cases hm
    · intro v'; simp only [upd]; split
      · exact nodup_dedupKeepFirst us
      · exact hu.nodupUnis v'

theorem joined_usym (w : World) (v : VId) (h : PreU w v) : USym (S.joined w v (w.unis v)) := by
  obtain ⟨h1, h2, h3, h4⟩ := h
  refine ⟨?_, ?_, h4⟩
  · intro v' u
    have := h1 v' u; have := h2 u
    simp only [S.joined]; grind
  · exact fun u => nodup_ite (fun hc => nodup_snoc (h3 u) hc.2) (h3 u)

theorem joined_fresh (w : World) (v : VId) (us : List VId) (h : Fresh w)
    (hus : ∀ u ∈ us, u < w.nV) : Fresh (S.joined w v us) := by
  obtain ⟨h1, h2, h3⟩ := h
  refine ⟨h1, ?_, h3⟩
  intro x (hx : w.nV ≤ x)
  have hn : x ∉ us := fun hm => absurd (hus x hm) (Nat.not_lt.mpr hx)
  simp only [S.joined, hn, false_and, if_false]; exact h2 x hx

namespace C

theorem newVertex_S (w : World) (c : VCls) (attrs : List (Nat × Nat)) (ls : List LId)
    (us : List VId) (h : Inv w) (hls : ∀ l ∈ ls, l < w.nL) (hus : ∀ u ∈ us, u < w.nV) :
    ∃ w', newVertex S.prims w c attrs ls us = .ok (w', w.nV) ∧ Inv w' ∧
      w'.unis w.nV = dedupKeepFirst us := by
  obtain ⟨hs, hl, hf, hp⟩ := allocVertex_pre w c attrs us h
  obtain ⟨h1, h2, h3⟩ := addToLinks_S (M.allocVertex w c attrs us).1 w.nV ls hs hf
    (Nat.lt_succ_self _) hls
  rw [newVertex_S_eq]
  generalize ls.foldl (fun w' l => S.addToLink w' w.nV l) (M.allocVertex w c attrs us).1 = w2
    at h1 h2 h3
  have hp2 : PreU w2 w.nV := by simpa only [PreU, h3.unis, h3.members] using hp
  have hu2 : w2.unis w.nV = dedupKeepFirst us := by
    rw [h3.unis]; simp [M.allocVertex]
  have hlt : ∀ u ∈ w2.unis w.nV, u < w2.nV := by
    intro u hu; rw [hu2, mem_dedupKeepFirst] at hu
    rw [h3.nV]; exact Nat.lt_succ_of_lt (hus u hu)
  exact ⟨_, rfl, ⟨h1, joined_usym w2 w.nV hp2, h3.lawsym hl, joined_fresh w2 w.nV _ h2 hlt⟩, hu2⟩

end C

theorem allocVertex_inv_nil (w : World) (c : VCls) (attrs : List (Nat × Nat)) (h : Inv w) :
    Inv (M.allocVertex w c attrs []).1 := by
  obtain ⟨hs, hl, hf, hp1, hp2, hp3, hp4⟩ := allocVertex_pre w c attrs [] h
  refine ⟨hs, ⟨?_, hp3, hp4⟩, hl, hf⟩
  intro v' u
  by_cases hv : v' = w.nV
  · subst hv
    have : (M.allocVertex w c attrs []).1.unis w.nV = [] := by simp [M.allocVertex, dedupKeepFirst]
    rw [this]; simp [hp2 u]
  · exact hp1 v' u hv

end EG
