import EG.Step
import EG.Proofs.UniLaws
/-
  EG.Proofs.InvDef — the invariant of reachable worlds, its four parts by name, the initial
  world, and what the argument tests of `C.step` say about the counters.
-/
namespace EG

/-- ids not yet allocated carry no data -/
def Fresh (w : World) : Prop :=
  (∀ l, w.nL ≤ l → w.ends l = []) ∧
  (∀ v, w.nV ≤ v → w.links v = [] ∧ w.unis v = [] ∧ w.members v = [] ∧ w.laws v = none) ∧
  (∀ L, w.nW ≤ L → w.appliesTo L = none)

/-- the invariant of every reachable world -/
def Inv (w : World) : Prop := Sym w ∧ USym w ∧ LawSym w ∧ Fresh w

theorem Inv.sym {w : World} (h : Inv w) : Sym w := h.1
theorem Inv.usym {w : World} (h : Inv w) : USym w := h.2.1
theorem Inv.lawSym {w : World} (h : Inv w) : LawSym w := h.2.2.1
theorem Inv.fresh {w : World} (h : Inv w) : Fresh w := h.2.2.2

theorem Fresh.ends {w : World} (h : Fresh w) {l : LId} (hl : w.nL ≤ l) : w.ends l = [] := h.1 l hl
theorem Fresh.vertex {w : World} (h : Fresh w) {v : VId} (hv : w.nV ≤ v) :
    w.links v = [] ∧ w.unis v = [] ∧ w.members v = [] ∧ w.laws v = none := h.2.1 v hv
theorem Fresh.lawSet {w : World} (h : Fresh w) {L : WId} (hL : w.nW ≤ L) : w.appliesTo L = none :=
  h.2.2 L hL

theorem Inv.nL_not_mem {w : World} (h : Inv w) (v : VId) : w.nL ∉ w.links v := fun hm => by
  have := (h.sym.iff v w.nL).mp hm
  rw [h.fresh.ends (Nat.le_refl _)] at this
  cases this

theorem inv_init : Inv World.init := by
  refine ⟨⟨?_, ?_⟩, ⟨?_, ?_, ?_⟩, ?_, ?_, ?_, ?_⟩ <;> intros <;> simp [World.init, LawSym]

theorem vOK_lt {w : World} {v : VId} (h : w.vOK v = true) : v < w.nV := of_decide_eq_true h
theorem lOK_lt {w : World} {l : LId} (h : w.lOK l = true) : l < w.nL := of_decide_eq_true h
theorem wOK_lt {w : World} {L : WId} (h : w.wOK L = true) : L < w.nW := of_decide_eq_true h

theorem ovOK_lt {w : World} {x : Option VId} {v : VId} (h : w.ovOK x = true) (e : x = some v) :
    v < w.nV := by
  subst e
  exact vOK_lt h

theorem isUni_lt {w : World} {u : VId} (h : w.isUni u = true) : u < w.nV :=
  of_decide_eq_true (Bool.and_eq_true_iff.mp h).1

theorem twoEnded_lt {w : World} {l : LId} (h : w.twoEnded l = true) : l < w.nL :=
  lOK_lt (Bool.and_eq_true_iff.mp h).1

end EG
