import EG.Proofs.InvDef
/-
  EG.Proofs.InvPrims — primitive level: where each mirror primitive equals the reference one,
  the frames (which columns a primitive leaves alone; `FramePres` for a whole record), and
  through them preservation of `Fresh` and of `Inv`; what the two laws setters read back.
-/
namespace EG

/-! `M.prims` runs on `M.fuel` = 8: each numeral below is 8 minus the offset of the `_eq` lemma. -/

theorem agree_addToLink (w : World) (v : VId) (l : LId) :
    M.prims.addToLink w v l = S.prims.addToLink w v l := M.addToLink_eq 6 w v l

theorem agree_addVertex (w : World) (l : LId) (x : Option VId) :
    M.prims.addVertex w l x = S.prims.addVertex w l x := M.addVertex_eq 6 w l x

theorem agree_removeFromLink (w : World) (v : VId) (l : LId) (h : Sym w) :
    M.prims.removeFromLink w v l = S.prims.removeFromLink w v l :=
  M.removeFromLink_eq 5 w v l (h.nodup v)

theorem agree_unlinkFrom (w : World) (l : LId) (x : Option VId) (h : Sym w) :
    M.prims.unlinkFrom w l x = S.prims.unlinkFrom w l x :=
  M.unlinkFrom_eq 5 w l x (fun k _ => h.nodup k)

theorem agree_replaceEnd (w : World) (l : LId) (i : Nat) (x : Option VId) (h : Sym w)
    (hi : i < (w.ends l).length) :
    M.prims.replaceEnd w l i x = S.prims.replaceEnd w l i x :=
  M.replaceEnd_eq 5 w l i x hi h.nodup

theorem agree_uniAddVertex (w : World) (u v : VId) :
    M.prims.uniAddVertex w u v = S.prims.uniAddVertex w u v := M.uniAddVertex_eq 6 w u v

theorem agree_addToUniverse (w : World) (v u : VId) :
    M.prims.addToUniverse w v u = S.prims.addToUniverse w v u := M.addToUniverse_eq 6 w v u

theorem agree_uniRemoveVertex (w : World) (u v : VId) (h : USym w) :
    M.prims.uniRemoveVertex w u v = S.prims.uniRemoveVertex w u v :=
  M.uniRemoveVertex_eq 5 w u v (h.nodupMembers u)

theorem agree_removeFromUniverse (w : World) (v u : VId) (h : USym w) :
    M.prims.removeFromUniverse w v u = S.prims.removeFromUniverse w v u :=
  M.removeFromUniverse_eq 5 w v u (h.nodupUnis v)

theorem agree_setLaws (w : World) (u : VId) (x : Option WId) (h : LawSym w) :
    M.prims.setLaws w u x = S.prims.setLaws w u x := M.setLaws_eq 3 w u x h

theorem agree_setAppliesTo (w : World) (L : WId) (x : Option VId) (h : LawSym w) :
    M.prims.setAppliesTo w L x = S.prims.setAppliesTo w L x := M.setAppliesTo_eq 3 w L x h

/-- what the vertex–link association primitives leave alone (`attrs` and `caching` too, which none
    of the three frames records) -/
structure AssocFrame (w w' : World) : Prop where
  nV : w'.nV = w.nV
  nL : w'.nL = w.nL
  nW : w'.nW = w.nW
  vcls : w'.vcls = w.vcls
  lcls : w'.lcls = w.lcls
  unis : w'.unis = w.unis
  members : w'.members = w.members
  laws : w'.laws = w.laws
  appliesTo : w'.appliesTo = w.appliesTo
  rules : w'.rules = w.rules

/-- what the universe-membership primitives leave alone -/
structure UniFrame (w w' : World) : Prop where
  nV : w'.nV = w.nV
  nL : w'.nL = w.nL
  nW : w'.nW = w.nW
  vcls : w'.vcls = w.vcls
  lcls : w'.lcls = w.lcls
  links : w'.links = w.links
  ends : w'.ends = w.ends
  laws : w'.laws = w.laws
  appliesTo : w'.appliesTo = w.appliesTo
  rules : w'.rules = w.rules

/-- what the universe↔laws primitives leave alone -/
structure LawFrame (w w' : World) : Prop where
  nV : w'.nV = w.nV
  nL : w'.nL = w.nL
  nW : w'.nW = w.nW
  vcls : w'.vcls = w.vcls
  lcls : w'.lcls = w.lcls
  links : w'.links = w.links
  ends : w'.ends = w.ends
  unis : w'.unis = w.unis
  members : w'.members = w.members
  rules : w'.rules = w.rules

theorem AssocFrame.write (w : World) (ls : VId → List LId) (es : LId → List (Option VId))
    (c : VId → List (Key × List (Option VId))) :
    AssocFrame w { w with links := ls, ends := es, cache := c } :=
  ⟨rfl, rfl, rfl, rfl, rfl, rfl, rfl, rfl, rfl, rfl⟩

theorem UniFrame.write (w : World) (us ms : VId → List VId) :
    UniFrame w { w with unis := us, members := ms } :=
  ⟨rfl, rfl, rfl, rfl, rfl, rfl, rfl, rfl, rfl, rfl⟩

theorem LawFrame.write (w : World) (ls : VId → Option WId) (as : WId → Option VId) :
    LawFrame w { w with laws := ls, appliesTo := as } :=
  ⟨rfl, rfl, rfl, rfl, rfl, rfl, rfl, rfl, rfl, rfl⟩

theorem AssocFrame.refl (w : World) : AssocFrame w w := .write w _ _ _
theorem UniFrame.refl (w : World) : UniFrame w w := .write w _ _
theorem LawFrame.refl (w : World) : LawFrame w w := .write w _ _

theorem AssocFrame.trans {a b c : World} (h1 : AssocFrame a b) (h2 : AssocFrame b c) : AssocFrame a c :=
  ⟨h2.nV.trans h1.nV, h2.nL.trans h1.nL, h2.nW.trans h1.nW, h2.vcls.trans h1.vcls,
   h2.lcls.trans h1.lcls, h2.unis.trans h1.unis, h2.members.trans h1.members,
   h2.laws.trans h1.laws, h2.appliesTo.trans h1.appliesTo, h2.rules.trans h1.rules⟩

theorem UniFrame.trans {a b c : World} (h1 : UniFrame a b) (h2 : UniFrame b c) : UniFrame a c :=
  ⟨h2.nV.trans h1.nV, h2.nL.trans h1.nL, h2.nW.trans h1.nW, h2.vcls.trans h1.vcls,
   h2.lcls.trans h1.lcls, h2.links.trans h1.links, h2.ends.trans h1.ends,
   h2.laws.trans h1.laws, h2.appliesTo.trans h1.appliesTo, h2.rules.trans h1.rules⟩

theorem LawFrame.trans {a b c : World} (h1 : LawFrame a b) (h2 : LawFrame b c) : LawFrame a c :=
  ⟨h2.nV.trans h1.nV, h2.nL.trans h1.nL, h2.nW.trans h1.nW, h2.vcls.trans h1.vcls,
   h2.lcls.trans h1.lcls, h2.links.trans h1.links, h2.ends.trans h1.ends,
   h2.unis.trans h1.unis, h2.members.trans h1.members, h2.rules.trans h1.rules⟩

theorem AssocFrame.usym {w w' : World} (f : AssocFrame w w') (h : USym w) : USym w' := by
  simpa only [USym, f.unis, f.members] using h
theorem AssocFrame.lawsym {w w' : World} (f : AssocFrame w w') (h : LawSym w) : LawSym w' := by
  simpa only [LawSym, f.laws, f.appliesTo] using h
theorem UniFrame.sym {w w' : World} (f : UniFrame w w') (h : Sym w) : Sym w' := by
  simpa only [Sym, f.links, f.ends] using h
theorem UniFrame.lawsym {w w' : World} (f : UniFrame w w') (h : LawSym w) : LawSym w' := by
  simpa only [LawSym, f.laws, f.appliesTo] using h
theorem LawFrame.sym {w w' : World} (f : LawFrame w w') (h : Sym w) : Sym w' := by
  simpa only [Sym, f.links, f.ends] using h
theorem LawFrame.usym {w w' : World} (f : LawFrame w w') (h : USym w) : USym w' := by
  simpa only [USym, f.unis, f.members] using h

namespace S

theorem addToLink_frame (w : World) (v : VId) (l : LId) : AssocFrame w (S.addToLink w v l) :=
  .write w _ _ _
theorem addVertex_frame (w : World) (l : LId) (x : Option VId) : AssocFrame w (S.addVertex w l x) :=
  .write w _ _ _
theorem removeFromLink_frame (w : World) (v : VId) (l : LId) : AssocFrame w (S.removeFromLink w v l) :=
  .write w _ _ _
theorem unlinkFrom_frame (w : World) (l : LId) (x : Option VId) : AssocFrame w (S.unlinkFrom w l x) := by
  cases x <;> exact .write w _ _ _
theorem replaceEnd_frame (w : World) (l : LId) (i : Nat) (x : Option VId) :
    AssocFrame w (S.replaceEnd w l i x) :=
  .write w _ _ _

theorem uniAddVertex_frame (w : World) (u v : VId) : UniFrame w (S.uniAddVertex w u v) :=
  .write w _ _
theorem addToUniverse_frame (w : World) (v u : VId) : UniFrame w (S.addToUniverse w v u) :=
  .write w _ _
theorem uniRemoveVertex_frame (w : World) (u v : VId) : UniFrame w (S.uniRemoveVertex w u v) :=
  .write w _ _
theorem removeFromUniverse_frame (w : World) (v u : VId) : UniFrame w (S.removeFromUniverse w v u) :=
  .write w _ _

theorem setLaws_frame (w : World) (u : VId) (x : Option WId) : LawFrame w (S.setLaws w u x) := by
  unfold S.setLaws; split
  · exact LawFrame.refl w
  · exact .write w _ _
theorem setAppliesTo_frame (w : World) (L : WId) (x : Option VId) :
    LawFrame w (S.setAppliesTo w L x) := by
  unfold S.setAppliesTo; split
  · exact LawFrame.refl w
  · exact .write w _ _

end S

theorem S.prims_uniRemoveVertex_ok {w w' : World} {u v : VId}
    (e : S.prims.uniRemoveVertex w u v = some (.ok w')) : w' = S.uniRemoveVertex w u v := by
  simp only [S.prims] at e
  split at e <;> cases e
  rfl

theorem S.prims_removeFromUniverse_ok {w w' : World} {v u : VId}
    (e : S.prims.removeFromUniverse w v u = some (.ok w')) : w' = S.removeFromUniverse w v u := by
  simp only [S.prims] at e
  split at e <;> cases e
  rfl

/-- every primitive of `P` stays within its frame (`S.prims` by computation, `M.prims` in `Rules`) -/
structure FramePres (P : Prims) : Prop where
  addToLink : ∀ w v l w', P.addToLink w v l = some w' → AssocFrame w w'
  addVertex : ∀ w l x w', P.addVertex w l x = some w' → AssocFrame w w'
  removeFromLink : ∀ w v l w', P.removeFromLink w v l = some w' → AssocFrame w w'
  unlinkFrom : ∀ w l x w', P.unlinkFrom w l x = some w' → AssocFrame w w'
  replaceEnd : ∀ w l i x w', P.replaceEnd w l i x = some w' → AssocFrame w w'
  uniAddVertex : ∀ w u v w', P.uniAddVertex w u v = some w' → UniFrame w w'
  addToUniverse : ∀ w v u w', P.addToUniverse w v u = some w' → UniFrame w w'
  uniRemoveVertex : ∀ w u v w', P.uniRemoveVertex w u v = some (.ok w') → UniFrame w w'
  removeFromUniverse : ∀ w v u w', P.removeFromUniverse w v u = some (.ok w') → UniFrame w w'
  setLaws : ∀ w u x w', P.setLaws w u x = some w' → LawFrame w w'
  setAppliesTo : ∀ w L x w', P.setAppliesTo w L x = some w' → LawFrame w w'

theorem S.prims_framePres : FramePres S.prims where
  addToLink w v l _ e := by cases e; exact S.addToLink_frame w v l
  addVertex w l x _ e := by cases e; exact S.addVertex_frame w l x
  removeFromLink w v l _ e := by cases e; exact S.removeFromLink_frame w v l
  unlinkFrom w l x _ e := by cases e; exact S.unlinkFrom_frame w l x
  replaceEnd w l i x _ e := by cases e; exact S.replaceEnd_frame w l i x
  uniAddVertex w u v _ e := by cases e; exact S.uniAddVertex_frame w u v
  addToUniverse w v u _ e := by cases e; exact S.addToUniverse_frame w v u
  uniRemoveVertex w u v _ e := S.prims_uniRemoveVertex_ok e ▸ S.uniRemoveVertex_frame w u v
  removeFromUniverse w v u _ e := S.prims_removeFromUniverse_ok e ▸ S.removeFromUniverse_frame w v u
  setLaws w u x _ e := by cases e; exact S.setLaws_frame w u x
  setAppliesTo w L x _ e := by cases e; exact S.setAppliesTo_frame w L x

/-- `Fresh` survives a write that keeps blank entries blank at the unallocated ids -/
theorem AssocFrame.fresh {w w' : World} (fr : AssocFrame w w') (h : Fresh w)
    (he : ∀ y, w.nL ≤ y → w.ends y = [] → w'.ends y = [])
    (hl : ∀ x, w.nV ≤ x → w.links x = [] → w'.links x = []) : Fresh w' := by
  refine ⟨?_, ?_, ?_⟩
  · rw [fr.nL]
    exact fun y hy => he y hy (h.ends hy)
  · rw [fr.nV, fr.unis, fr.members, fr.laws]
    exact fun x hx => ⟨hl x hx (h.vertex hx).1, (h.vertex hx).2⟩
  · rw [fr.nW, fr.appliesTo]
    exact h.2.2

theorem UniFrame.fresh {w w' : World} (fr : UniFrame w w') (h : Fresh w)
    (hu : ∀ x, w.nV ≤ x → w.unis x = [] → w.members x = [] →
      w'.unis x = [] ∧ w'.members x = []) : Fresh w' := by
  refine ⟨?_, ?_, ?_⟩
  · rw [fr.nL, fr.ends]
    exact h.1
  · rw [fr.nV, fr.links, fr.laws]
    intro x hx
    obtain ⟨a, b, c, d⟩ := h.vertex hx
    exact ⟨a, (hu x hx b c).1, (hu x hx b c).2, d⟩
  · rw [fr.nW, fr.appliesTo]
    exact h.2.2

theorem LawFrame.fresh {w w' : World} (fr : LawFrame w w') (h : Fresh w)
    (hl : ∀ x, w.nV ≤ x → w.laws x = none → w'.laws x = none)
    (ha : ∀ L, w.nW ≤ L → w.appliesTo L = none → w'.appliesTo L = none) : Fresh w' := by
  refine ⟨?_, ?_, ?_⟩
  · rw [fr.nL, fr.ends]
    exact h.1
  · rw [fr.nV, fr.links, fr.unis, fr.members]
    intro x hx
    obtain ⟨a, b, c, d⟩ := h.vertex hx
    exact ⟨a, b, c, hl x hx d⟩
  · rw [fr.nW]
    exact fun L hL => ha L hL (h.lawSet hL)

namespace S

theorem addToLink_fresh (w : World) (v : VId) (l : LId) (h : Fresh w)
    (hv : v < w.nV) (hl : l < w.nL) : Fresh (S.addToLink w v l) :=
  (S.addToLink_frame w v l).fresh h (fun y hy e => by grind [S.addToLink])
    (fun x hx e => by grind [S.addToLink])

theorem addVertex_fresh (w : World) (l : LId) (x : Option VId) (h : Fresh w)
    (hl : l < w.nL) (hx : w.ovOK x = true) : Fresh (S.addVertex w l x) :=
  have := @ovOK_lt w x
  (S.addVertex_frame w l x).fresh h (fun y hy e => by grind [S.addVertex])
    (fun v hv e => by grind [S.addVertex])

theorem removeFromLink_fresh (w : World) (v : VId) (l : LId) (h : Fresh w) :
    Fresh (S.removeFromLink w v l) :=
  (S.removeFromLink_frame w v l).fresh h (fun y hy e => by grind [S.removeFromLink])
    (fun x hx e => by grind [S.removeFromLink])

theorem unlinkFrom_fresh (w : World) (l : LId) (x : Option VId) (h : Fresh w) :
    Fresh (S.unlinkFrom w l x) :=
  (S.unlinkFrom_frame w l x).fresh h (fun y hy e => by cases x <;> grind [S.unlinkFrom])
    (fun v hv e => by cases x <;> grind [S.unlinkFrom])

theorem replaceEnd_fresh (w : World) (l : LId) (i : Nat) (x : Option VId) (h : Fresh w)
    (hl : l < w.nL) (hx : w.ovOK x = true) : Fresh (S.replaceEnd w l i x) :=
  have := @ovOK_lt w x
  (S.replaceEnd_frame w l i x).fresh h (fun y hy e => by grind [S.replaceEnd])
    (fun v hv e => by grind [S.replaceEnd])

theorem uniAddVertex_fresh (w : World) (u v : VId) (h : Fresh w)
    (hu : u < w.nV) (hv : v < w.nV) : Fresh (S.uniAddVertex w u v) :=
  (S.uniAddVertex_frame w u v).fresh h fun x hx e₁ e₂ => by grind [S.uniAddVertex]

theorem addToUniverse_fresh (w : World) (v u : VId) (h : Fresh w)
    (hu : u < w.nV) (hv : v < w.nV) : Fresh (S.addToUniverse w v u) :=
  (S.addToUniverse_frame w v u).fresh h fun x hx e₁ e₂ => by grind [S.addToUniverse]

theorem uniRemoveVertex_fresh (w : World) (u v : VId) (h : Fresh w) :
    Fresh (S.uniRemoveVertex w u v) :=
  (S.uniRemoveVertex_frame w u v).fresh h fun x hx e₁ e₂ => by grind [S.uniRemoveVertex]

theorem removeFromUniverse_fresh (w : World) (v u : VId) (h : Fresh w) :
    Fresh (S.removeFromUniverse w v u) :=
  S.uniRemoveVertex_fresh w u v h

theorem setLaws_fresh (w : World) (u : VId) (x : Option WId) (h : Fresh w)
    (hu : u < w.nV) (hx : ∀ L, x = some L → L < w.nW) : Fresh (S.setLaws w u x) :=
  (S.setLaws_frame w u x).fresh h (fun v hv e => by grind [S.setLaws])
    (fun L hL e => by grind [S.setLaws])

theorem setAppliesTo_fresh (w : World) (L : WId) (x : Option VId) (h : Fresh w)
    (hL : L < w.nW) (hx : ∀ u, x = some u → u < w.nV) : Fresh (S.setAppliesTo w L x) :=
  (S.setAppliesTo_frame w L x).fresh h (fun v hv e => by grind [S.setAppliesTo])
    (fun K hK e => by grind [S.setAppliesTo])

end S

theorem Inv.of_assoc {w w' : World} (h : Inv w) (f : AssocFrame w w') (hs : Sym w')
    (hf : Fresh w') : Inv w' := ⟨hs, f.usym h.usym, f.lawsym h.lawSym, hf⟩

theorem Inv.of_uni {w w' : World} (h : Inv w) (f : UniFrame w w') (hu : USym w')
    (hf : Fresh w') : Inv w' := ⟨f.sym h.sym, hu, f.lawsym h.lawSym, hf⟩

theorem Inv.of_law {w w' : World} (h : Inv w) (f : LawFrame w w') (hl : LawSym w')
    (hf : Fresh w') : Inv w' := ⟨f.sym h.sym, f.usym h.usym, hl, hf⟩

namespace S

theorem addToLink_inv (w : World) (v : VId) (l : LId) (h : Inv w) (hv : v < w.nV) (hl : l < w.nL) :
    Inv (S.addToLink w v l) :=
  h.of_assoc (S.addToLink_frame w v l) (S.addToLink_sym w v l h.sym)
    (S.addToLink_fresh w v l h.fresh hv hl)

theorem addVertex_inv (w : World) (l : LId) (x : Option VId) (h : Inv w) (hl : l < w.nL)
    (hx : w.ovOK x = true) : Inv (S.addVertex w l x) :=
  h.of_assoc (S.addVertex_frame w l x) (S.addVertex_sym w l x h.sym)
    (S.addVertex_fresh w l x h.fresh hl hx)

theorem removeFromLink_inv (w : World) (v : VId) (l : LId) (h : Inv w) :
    Inv (S.removeFromLink w v l) :=
  h.of_assoc (S.removeFromLink_frame w v l) (S.removeFromLink_sym w v l h.sym)
    (S.removeFromLink_fresh w v l h.fresh)

theorem unlinkFrom_inv (w : World) (l : LId) (x : Option VId) (h : Inv w) :
    Inv (S.unlinkFrom w l x) :=
  h.of_assoc (S.unlinkFrom_frame w l x) (S.unlinkFrom_sym w l x h.sym)
    (S.unlinkFrom_fresh w l x h.fresh)

theorem replaceEnd_inv (w : World) (l : LId) (i : Nat) (x : Option VId) (h : Inv w)
    (hi : i < (w.ends l).length) (hl : l < w.nL) (hx : w.ovOK x = true) :
    Inv (S.replaceEnd w l i x) :=
  h.of_assoc (S.replaceEnd_frame w l i x) (S.replaceEnd_sym w l i x hi h.sym)
    (S.replaceEnd_fresh w l i x h.fresh hl hx)

theorem uniAddVertex_inv (w : World) (u v : VId) (h : Inv w) (hu : u < w.nV) (hv : v < w.nV) :
    Inv (S.uniAddVertex w u v) :=
  h.of_uni (S.uniAddVertex_frame w u v) (S.uniAddVertex_usym w u v h.usym)
    (S.uniAddVertex_fresh w u v h.fresh hu hv)

theorem addToUniverse_inv (w : World) (v u : VId) (h : Inv w) (hu : u < w.nV) (hv : v < w.nV) :
    Inv (S.addToUniverse w v u) :=
  h.of_uni (S.addToUniverse_frame w v u) (S.addToUniverse_usym w v u h.usym)
    (S.addToUniverse_fresh w v u h.fresh hu hv)

theorem uniRemoveVertex_inv (w : World) (u v : VId) (h : Inv w) : Inv (S.uniRemoveVertex w u v) :=
  h.of_uni (S.uniRemoveVertex_frame w u v) (S.uniRemoveVertex_usym w u v h.usym)
    (S.uniRemoveVertex_fresh w u v h.fresh)

theorem removeFromUniverse_inv (w : World) (v u : VId) (h : Inv w) :
    Inv (S.removeFromUniverse w v u) := S.uniRemoveVertex_inv w u v h

theorem setLaws_inv (w : World) (u : VId) (x : Option WId) (h : Inv w) (hu : u < w.nV)
    (hx : ∀ L, x = some L → L < w.nW) : Inv (S.setLaws w u x) :=
  h.of_law (S.setLaws_frame w u x) (S.setLaws_lawsym w u x h.lawSym)
    (S.setLaws_fresh w u x h.fresh hu hx)

theorem setAppliesTo_inv (w : World) (L : WId) (x : Option VId) (h : Inv w) (hL : L < w.nW)
    (hx : ∀ u, x = some u → u < w.nV) : Inv (S.setAppliesTo w L x) :=
  h.of_law (S.setAppliesTo_frame w L x) (S.setAppliesTo_lawsym w L x h.lawSym)
    (S.setAppliesTo_fresh w L x h.fresh hL hx)

end S

theorem S.setLaws_laws (w : World) (u : VId) (x : Option WId) : (S.setLaws w u x).laws u = x := by
  unfold S.setLaws; split
  · rename_i h; exact h.symm
  · simp

theorem S.setAppliesTo_appliesTo (w : World) (L : WId) (x : Option VId) :
    (S.setAppliesTo w L x).appliesTo L = x := by
  unfold S.setAppliesTo; split
  · rename_i h; exact h.symm
  · simp

end EG
