import EG.Basic
/-
  EG.Proofs.Lists — facts about lists, folds and runs that several regions use; none of them
  mentions the world.
-/
namespace EG

theorem nodup_snoc {α : Type} {l : List α} {a : α} (h : l.Nodup) (ha : a ∉ l) : (l ++ [a]).Nodup :=
  List.nodup_append.2 ⟨h, by simp,
    fun _ hx _ hy e => ha (List.mem_singleton.1 hy ▸ e ▸ hx)⟩

/-- a sublist of a list without repetitions is that list filtered by membership -/
theorem Sublist.eq_filter {α : Type} [DecidableEq α] {l₁ l₂ : List α} (h : l₁.Sublist l₂)
    (hn : l₂.Nodup) : l₁ = l₂.filter (· ∈ l₁) := by
  induction h with
  | slnil => rfl
  | cons a h ih =>
    rw [List.nodup_cons] at hn
    rw [List.filter_cons_of_neg (by simpa using fun ha => hn.1 (h.subset ha)), ← ih hn.2]
  | cons_cons a h ih =>
    rw [List.nodup_cons] at hn
    rw [List.filter_cons_of_pos (by simp)]
    congr 1
    exact (ih hn.2).trans (List.filter_congr fun x hx => by
      simp [show x ≠ a from fun e => hn.1 (e ▸ hx)])

theorem mem_dedupKeepFirst (l : List Nat) (x : Nat) : x ∈ dedupKeepFirst l ↔ x ∈ l := by
  induction l with
  | nil => simp [dedupKeepFirst]
  | cons y ys ih => simp [dedupKeepFirst, ih]; grind

theorem nodup_dedupKeepFirst (l : List Nat) : (dedupKeepFirst l).Nodup := by
  induction l with
  | nil => simp [dedupKeepFirst]
  | cons y ys ih =>
    simp only [dedupKeepFirst, List.nodup_cons]
    exact ⟨by simp, ih.filter _⟩

theorem dedupKeepFirst_of_nodup {l : List Nat} (h : l.Nodup) : dedupKeepFirst l = l := by
  induction l with
  | nil => rfl
  | cons x xs ih =>
    rw [List.nodup_cons] at h
    rw [dedupKeepFirst, ih h.2, List.filter_eq_self.mpr fun y hy => by simpa using fun e : y = x => h.1 (e ▸ hy)]

theorem dedup_snoc (xs : List Nat) (x : Nat) :
    dedupKeepFirst (xs ++ [x]) =
      if x ∈ xs then dedupKeepFirst xs else dedupKeepFirst xs ++ [x] := by
  induction xs with
  | nil => simp [dedupKeepFirst]
  | cons y ys ih =>
    simp only [List.cons_append, dedupKeepFirst, ih]
    by_cases hxy : x = y
    · subst hxy
      by_cases hm : x ∈ ys <;> simp [hm, List.filter_append]
    · by_cases hm : x ∈ ys <;> simp [hm, hxy, List.filter_append]

theorem foldl_inv {σ α : Type} (g : σ → α → σ) (R : σ → Prop) (xs : List α)
    (hR : ∀ w x, R w → x ∈ xs → R (g w x)) : ∀ w, R w → R (xs.foldl g w) := by
  induction xs with
  | nil => intro w h; exact h
  | cons x xs ih =>
    intro w h
    simp only [List.foldl_cons]
    exact ih (fun w y h hy => hR w y h (by simp [hy])) _ (hR w x h (by simp))

theorem foldl_rel {α β γ : Type} (R : α → β → Prop) {g : α → γ → α} {h : β → γ → β}
    (l : List γ) (H : ∀ a b, R a b → ∀ c ∈ l, R (g a c) (h b c)) :
    ∀ a b, R a b → R (l.foldl g a) (l.foldl h b) := by
  induction l with
  | nil => exact fun _ _ r => r
  | cons c l ih =>
    exact fun a b r => ih (fun a b r c hc => H a b r c (by simp [hc])) _ _ (H a b r c (by simp))

/-- the state after a history: what every step keeps (for the operations listed), a runner with
    `run`'s two equations keeps -/
theorem run_ind {σ ο α : Type} {run : σ → List ο → σ × List α} {step : σ → ο → σ × α}
    (h0 : ∀ s, (run s []).1 = s) (h1 : ∀ s op ops, (run s (op :: ops)).1 = (run (step s op).1 ops).1)
    {P : σ → Prop} {ops : List ο} (hstep : ∀ s, ∀ op ∈ ops, P s → P (step s op).1) {s : σ}
    (h : P s) : P (run s ops).1 := by
  induction ops generalizing s with
  | nil => exact (h0 s).symm ▸ h
  | cons op ops ih =>
    exact h1 s op ops ▸ ih (fun s op' h' => hstep s op' (List.mem_cons_of_mem _ h'))
      (hstep s op List.mem_cons_self h)

end EG
