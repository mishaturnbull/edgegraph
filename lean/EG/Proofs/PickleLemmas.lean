import EG.Proofs.PickleRec
/-
  EG.Proofs.PickleLemmas — helper lemmas for C10 (the queue machine refines the recursive pickler):
  `Sim`, the simulation of a queue prefix, composed along `rec_induct`; the chain heap.
-/
namespace EG
namespace Pk

-- the recursion `steps` of the C10 statements (`steps_eq_stepsL`), for use below EG/Props/C10.lean
def stepsL (H : Heap) : Nat → Conf → Option Conf
  | 0, c => some c
  | n+1, c => match nrStep H c with
    | none => none
    | some c' => stepsL H n c'

theorem stepsL_trans {H : Heap} {n m : Nat} {c c' c'' : Conf}
    (h1 : stepsL H n c = some c') (h2 : stepsL H m c' = some c'') :
    stepsL H (n + m) c = some c'' := by
  induction n generalizing c with
  | zero =>
    simp only [stepsL, Option.some.injEq] at h1
    subst h1
    simpa using h2
  | succ n ih =>
    have e : n + 1 + m = (n + m) + 1 := by omega
    rw [e]
    simp only [stepsL] at h1 ⊢
    cases hs : nrStep H c with
    | none => simp [hs] at h1
    | some c1 =>
      simp only [hs] at h1 ⊢
      exact ih h1

theorem nrRun_of_stepsL {H : Heap} {n : Nat} {c c' : Conf} (k : Nat)
    (h : stepsL H n c = some c') (hq : c'.queue = []) : nrRun H (n + k) c = some c' := by
  induction n generalizing c with
  | zero =>
    simp only [stepsL, Option.some.injEq] at h
    subst h
    cases k with
    | zero => simp [nrRun, hq]
    | succ k =>
      have : nrStep H c = none := by simp [nrStep, hq]
      simp [nrRun, this]
  | succ n ih =>
    have e : n + 1 + k = (n + k) + 1 := by omega
    rw [e]
    simp only [stepsL] at h
    simp only [nrRun]
    cases hs : nrStep H c with
    | none => simp [hs] at h
    | some c1 =>
      simp only [hs] at h ⊢
      exact ih h

/-- `normalize` rewrites 3-opcode windows: no window straddles the end of `a` -/
def Closed (a : List POp) : Prop := ∀ b, normalize (a ++ b) = normalize a ++ normalize b

theorem Closed.nil : Closed [] := fun _ => by simp [normalize]

theorem Closed.append {a b : List POp} (ha : Closed a) (hb : Closed b) : Closed (a ++ b) := by
  intro c
  rw [List.append_assoc, ha, hb, ha, List.append_assoc]

/-- processing the queue prefix `pre` from memo `memo` ends with memo `m`, emitting (up to
    `normalize`) the stream `s`, whatever follows in the queue and whatever was emitted before;
    both streams `Closed`, so that two such pieces compose (`Sim.append`) -/
def Sim (H : Heap) (pre : List Item) (memo m : List Nat) (s : List POp) : Prop :=
  ∀ (q : List Item) (out : List POp), ∃ n s',
    stepsL H n ⟨pre ++ q, memo, out⟩ = some ⟨q, m, out ++ s'⟩ ∧
    normalize s' = normalize s ∧ Closed s' ∧ Closed s

theorem Sim.nil {H : Heap} {memo : List Nat} : Sim H [] memo memo [] :=
  fun q out => ⟨0, [], by simp [stepsL], rfl, Closed.nil, Closed.nil⟩

theorem Sim.append {H : Heap} {p1 p2 : List Item} {memo m1 m2 : List Nat} {s1 s2 : List POp}
    (h1 : Sim H p1 memo m1 s1) (h2 : Sim H p2 m1 m2 s2) :
    Sim H (p1 ++ p2) memo m2 (s1 ++ s2) := by
  intro q out
  obtain ⟨n1, t1, hs1, hn1, hc1, hc1'⟩ := h1 (p2 ++ q) out
  obtain ⟨n2, t2, hs2, hn2, hc2, hc2'⟩ := h2 q (out ++ t1)
  refine ⟨n1 + n2, t1 ++ t2, ?_, ?_, hc1.append hc2, hc1'.append hc2'⟩
  · rw [List.append_assoc p1 p2 q, ← List.append_assoc out t1 t2]
    exact stepsL_trans hs1 hs2
  · rw [hc1 t2, hc1' s2, hn1, hn2]

theorem Sim.write {H : Heap} {memo : List Nat} (op : POp) (hc : Closed [op]) :
    Sim H [.write op] memo memo [op] :=
  fun q out => ⟨1, [op], by simp [stepsL, nrStep], rfl, hc, hc⟩

theorem Sim.hit {H : Heap} {memo : List Nat} {o i : Nat} (hm : memoIdx memo o = some i) :
    Sim H [.save o] memo memo [.get i] :=
  have hc : Closed [.get i] := fun _ => by simp [normalize]
  fun q out => ⟨1, _, by simp [stepsL, nrStep, hm], rfl, hc, hc⟩

theorem Sim.atom {H : Heap} {memo : List Nat} {o a : Nat} (hm : memoIdx memo o = none)
    (hH : H o = .atom a) : Sim H [.save o] memo memo [.atom a] :=
  have hc : Closed [.atom a] := fun _ => by simp [normalize]
  fun q out => ⟨1, _, by simp [stepsL, nrStep, hm, hH], rfl, hc, hc⟩

theorem Sim.build_memo {H : Heap} {m1 : List Nat} {o : Nat} (k n : Nat)
    (hm : memoIdx m1 o = none) :
    Sim H [.write (.build1 k n), .memoI o] m1 (m1 ++ [o]) [.build1 k n, .memo] :=
  have hc : Closed [.build1 k n, .memo] := fun _ => by simp [normalize]
  fun q out => ⟨2, _, by simp [stepsL, nrStep, hm], rfl, hc, hc⟩

/-- the machine's `Build1, Pop, Get` stands for any closed `s` with the same normal form (the
    recursive pickler's `Discard, Get` for a tuple) -/
theorem Sim.build_again {H : Heap} {m1 : List Nat} {o i : Nat} (k n : Nat)
    (hm : memoIdx m1 o = some i) {s : List POp}
    (hn : normalize [.build1 k n, .pop, .get i] = normalize s) (hc : Closed s) :
    Sim H [.write (.build1 k n), .memoI o] m1 m1 s :=
  fun q out => ⟨2, [.build1 k n, .pop, .get i], by simp [stepsL, nrStep, hm], hn,
    fun _ => by simp [normalize], hc⟩

theorem Sim.expand {H : Heap} {memo m : List Nat} {o : Nat} {tup : Bool} {k : Nat}
    {bs as : List Nat} {s : List POp}
    (hm : memoIdx memo o = none) (hH : H o = .node tup k bs as)
    (h : Sim H ([Item.write (.opn k)] ++ bs.map Item.save ++
          [Item.write (.build1 k bs.length), Item.memoI o] ++
          (if tup then [] else as.map Item.save ++ [Item.write (.build2 k)])) memo m s) :
    Sim H [.save o] memo m s := by
  intro q out
  obtain ⟨n, s', hs, hn, hc, hc'⟩ := h q out
  refine ⟨1 + n, s', ?_, hn, hc, hc'⟩
  refine stepsL_trans (n := 1) (c' := ⟨_, memo, out⟩) ?_ hs
  simp [stepsL, nrStep, hm, hH]

theorem Sim.tuple {H : Heap} {memo m1 m' : List Nat} {o k : Nat} {bs as : List Nat}
    {s1 mid : List POp} (hm : memoIdx memo o = none) (hH : H o = .node true k bs as)
    (sb : Sim H (bs.map Item.save) memo m1 s1)
    (sm : Sim H [.write (.build1 k bs.length), .memoI o] m1 m' mid) :
    Sim H [.save o] memo m' ([.opn k] ++ s1 ++ mid) := by
  apply Sim.expand hm hH
  simpa using ((Sim.write (.opn k) fun _ => by simp [normalize]).append sb).append sm

theorem Sim.reduce {H : Heap} {memo m1 m' m2 : List Nat} {o k : Nat} {bs as : List Nat}
    {s1 mid s2 : List POp} (hm : memoIdx memo o = none) (hH : H o = .node false k bs as)
    (sb : Sim H (bs.map Item.save) memo m1 s1)
    (sm : Sim H [.write (.build1 k bs.length), .memoI o] m1 m' mid)
    (sa : Sim H (as.map Item.save) m' m2 s2) :
    Sim H [.save o] memo m2 ([.opn k] ++ s1 ++ mid ++ s2 ++ [.build2 k]) := by
  apply Sim.expand hm hH
  simpa using (((Sim.write (.opn k) fun _ => by simp [normalize]).append sb).append sm).append
    (sa.append (Sim.write (.build2 k) fun _ => by simp [normalize]))

theorem rec_sim (H : Heap) : ∀ f o memo s m, rec H f o memo = some (s, m) →
    Sim H [.save o] memo m s :=
  rec_induct (PL := fun os memo s m => Sim H (os.map Item.save) memo m s)
    Sim.hit Sim.atom Sim.nil Sim.append
    (fun hm hH sb hm1 => Sim.tuple hm hH sb
      (Sim.build_again _ _ hm1 (by simp [normalize]) fun _ => by simp [normalize]))
    (fun hm hH sb hm1 sa => Sim.reduce hm hH sb
      (Sim.build_again _ _ hm1 rfl fun _ => by simp [normalize]) sa)
    (fun hm hH sb hm1 => Sim.tuple hm hH sb (Sim.build_memo _ _ hm1))
    (fun hm hH sb hm1 sa => Sim.reduce hm hH sb (Sim.build_memo _ _ hm1) sa)

-- the depth example for any heap of the shape of `chain` (EG/Props/C10.lean)
theorem below_fresh {memo : List Nat} {o : Nat} (hmem : ∀ x ∈ memo, x < o) :
    memoIdx memo o = none ∧ ∀ x ∈ memo ++ [o], x < o + 1 := by
  refine ⟨memoIdx_eq_none_iff.mpr fun hin => Nat.lt_irrefl _ (hmem o hin), fun x hx => ?_⟩
  rcases List.mem_append.mp hx with hx | hx
  · exact Nat.lt_succ_of_lt (hmem x hx)
  · rw [List.mem_singleton.mp hx]; exact Nat.lt_succ_self _

/-- on a chain the recursive pickler succeeds exactly when its fuel exceeds the depth still ahead -/
theorem rec_chain_iff (H : Heap) (n : Nat) (hH : ∀ o, o < n → H o = .node false 0 [] [o + 1])
    (hA : ∀ o, n ≤ o → H o = .atom 0) :
    ∀ f o memo, o ≤ n → (∀ x ∈ memo, x < o) → ((rec H f o memo).isSome ↔ n < o + f) := by
  intro f
  induction f with
  | zero => intro o memo hle _; simp [rec]; omega
  | succ f ih =>
    intro o memo hle hmem
    obtain ⟨hm, hmem'⟩ := below_fresh hmem
    by_cases ho : o < n
    · have step : (rec H (f + 1) o memo).isSome = (rec H f (o + 1) (memo ++ [o])).isSome := by
        simp only [rec, hm, hH o ho, recListWith]
        cases rec H f (o + 1) (memo ++ [o]) <;> rfl
      rw [step, ih (o + 1) (memo ++ [o]) ho hmem']
      omega
    · simp [rec, hm, hA o (by omega)]; omega

end Pk
end EG
