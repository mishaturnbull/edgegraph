import EG.Proofs.PickleRec
import EG.Proofs.PickleVM
/-
  Helper lemmas for EG/Props/C10Load.lean.  A stream without `POP` memoises every object as soon as
  it is built, so the unpickler started empty puts the object with memo number `i` at address `i`:
  `Built` says what its heap then holds; `Loads` is proved of every stream the recursive pickler
  writes, along `rec_induct`.
-/
namespace EG
namespace Pk

/-- the object is an atom or has been memoised -/
def Known (H : Heap) (m : List Nat) (o : Nat) : Prop := (∃ a, H o = .atom a) ∨ o ∈ m

theorem Known.mono {H : Heap} {m m' : List Nat} {o : Nat} (h : Known H m o) (hm : m <+: m') :
    Known H m' o :=
  h.imp_right fun h => hm.subset h

/-- the unpickler's memo after `n` memoisations, when every object is memoised as soon as it is built
    (which is what a stream without `POP` does): object number `i` lives at address `i` -/
def refs (n : Nat) : List Val := (List.range n).map .ref

theorem refs_succ (n : Nat) : refs (n + 1) = refs n ++ [.ref n] := by
  simp [refs, List.range_succ]

theorem getElem?_refs {n i : Nat} (h : i < n) : (refs n)[i]? = some (.ref i) := by
  simp [refs, h]

/-- `phi` for that memo: a node is loaded at its memo number -/
def img (H : Heap) (m : List Nat) (o : Nat) : Val := phi H m (refs m.length) o

theorem img_node {H : Heap} {m : List Nat} {o i : Nat} {tup : Bool} {k : Nat} {bs as : List Nat}
    (hH : H o = .node tup k bs as) (hi : memoIdx m o = some i) : img H m o = .ref i := by
  simp only [img, phi, hH, hi, List.getD_eq_getElem?_getD, getElem?_refs (memoIdx_some hi).1,
    Option.getD_some]

theorem memoIdx_prefix {m M : List Nat} {o i : Nat} (hM : m <+: M) (hi : memoIdx m o = some i) :
    memoIdx M o = some i := by
  obtain ⟨e, rfl⟩ := hM
  rw [memoIdx_append_of_mem (memoIdx_some hi).2.2, hi]

/-- the pickler never found a NON-tuple object memoised while its own `before` parts (the
    arguments of its reduce) were being saved: no `POP` in the stream.  (A tuple met again while
    its elements are being saved — `POP_MARK`, GET — is allowed.) -/
def NoReentry (s : List POp) : Prop := ∀ op ∈ s, op ≠ .pop

theorem NoReentry.left {a b : List POp} (h : NoReentry (a ++ b)) : NoReentry a :=
  fun op ho => h op (List.mem_append_left _ ho)

theorem NoReentry.right {a b : List POp} (h : NoReentry (a ++ b)) : NoReentry b :=
  fun op ho => h op (List.mem_append_right _ ho)

/-- the kind of an object determines whether it is tuple-like -/
def KindsWF (H : Heap) (tupK : Nat → Bool) : Prop :=
  ∀ o tup k bs as, H o = .node tup k bs as → tupK k = tup

/-- `M` = the pickler's memo at the end of the dump: images are taken in it, so they never change;
    `m` = its memo now, a prefix of `M`: the objects loaded so far; `heap` = the unpickler's heap;
    `pend` = the objects whose `after` part is still being loaded -/
structure Built (H : Heap) (M m : List Nat) (heap : Nat → VNode) (pend : List Nat) : Prop where
  node : ∀ o i, memoIdx m o = some i → ∃ tup k bs as aft,
      H o = .node tup k bs as ∧ heap i = ⟨k, bs.map (img H M), aft⟩ ∧ (∀ b ∈ bs, Known H M b) ∧
      (o ∉ pend → aft = (if tup then [] else as.map (img H M)) ∧
        (tup = false → ∀ a ∈ as, Known H M a))

theorem Built.init (H : Heap) (M : List Nat) (heap : Nat → VNode) : Built H M [] heap [] :=
  ⟨fun _ _ h => (nomatch h)⟩

variable {H : Heap} {M m : List Nat} {heap : Nat → VNode} {pend : List Nat}

/-- one new object per original: two memoised objects with the same image have the same memo number -/
theorem Built.inj (hb : Built H m m heap pend) {o o' : Nat} (ho : o ∈ m) (ho' : o' ∈ m)
    (e : img H m o = img H m o') : o = o' := by
  obtain ⟨i, hi⟩ := memoIdx_of_mem ho
  obtain ⟨i', hi'⟩ := memoIdx_of_mem ho'
  obtain ⟨_, _, _, _, _, hH, _⟩ := hb.node o i hi
  obtain ⟨_, _, _, _, _, hH', _⟩ := hb.node o' i' hi'
  rw [img_node hH hi, img_node hH' hi'] at e
  cases e
  exact Option.some.inj ((memoIdx_some hi).2.1.symm.trans (memoIdx_some hi').2.1)

theorem Built.add (hb : Built H M m heap pend) {o : Nat} {tup : Bool} {k : Nat}
    {bs as : List Nat} (ho : o ∉ m) (hH : H o = .node tup k bs as) (hk : ∀ b ∈ bs, Known H M b) :
    Built H M (m ++ [o]) (upd heap m.length ⟨k, bs.map (img H M), []⟩)
      (if tup then pend else o :: pend) := by
  refine ⟨fun x i hi => ?_⟩
  by_cases hx : x ∈ m
  · rw [memoIdx_append_of_mem hx] at hi
    obtain ⟨tup', k', bs', as', aft, hobj, hcell, hbef, haft⟩ := hb.node x i hi
    exact ⟨tup', k', bs', as', aft, hobj,
      by rw [upd_other _ _ _ _ (Nat.ne_of_lt (memoIdx_some hi).1), hcell], hbef,
      fun hno => haft fun hin => hno (by cases tup <;> simp [hin])⟩
  · obtain rfl : x = o := by simpa [hx] using (memoIdx_some hi).2.2
    obtain rfl : m.length = i := Option.some.inj ((memoIdx_snoc_self ho).symm.trans hi)
    refine ⟨tup, k, bs, as, [], hH, upd_same _ _ _, hk, fun hno => ?_⟩
    cases tup with
    | true => exact ⟨rfl, nofun⟩
    | false => simp at hno

theorem Built.close {o : Nat} (hb : Built H M m heap (o :: pend)) {k : Nat} {bs as : List Nat}
    (hH : H o = .node false k bs as) {r : Nat} (hr : memoIdx m o = some r)
    (hk : ∀ a ∈ as, Known H M a) :
    Built H M m (upd heap r { heap r with after := as.map (img H M) }) pend := by
  refine ⟨fun x i hi => ?_⟩
  obtain ⟨tup', k', bs', as', aft, hobj, hcell, hbef, haft⟩ := hb.node x i hi
  by_cases hxo : x = o
  · subst hxo
    obtain ⟨rfl, rfl, rfl, rfl⟩ : false = tup' ∧ k = k' ∧ bs = bs' ∧ as = as' := by
      simpa [hobj] using hH.symm
    obtain rfl : r = i := Option.some.inj (hr.symm.trans hi)
    exact ⟨false, k, bs, as, as.map (img H M), hobj, by rw [upd_same, hcell], hbef,
      fun _ => ⟨rfl, fun _ => hk⟩⟩
  · have hrr : i ≠ r := fun e => hxo (Option.some.inj
      ((memoIdx_some hi).2.1.symm.trans (e ▸ (memoIdx_some hr).2.1)))
    exact ⟨tup', k', bs', as', aft, hobj, by rw [upd_other _ _ _ _ hrr, hcell], hbef,
      fun hno => haft (by simp [hxo, hno])⟩

/-- `s` = the stream written for the objects `os` while the pickler's memo grew from `m` to `m'`: the
    unpickler that has loaded `m` pushes their images and has then loaded `m'` -/
structure Loads (H : Heap) (tupK : Nat → Bool) (os m : List Nat) (s : List POp) (m' : List Nat) :
    Prop where
  pre : m <+: m'
  known : ∀ o ∈ os, Known H m' o
  run : ∀ M, m' <+: M → NoReentry s → ∀ (st : List SV) (heap : Nat → VNode) (pend : List Nat),
    Built H M m heap pend →
    ∃ heap', vmRun tupK ⟨st, refs m.length, heap, m.length⟩ s =
        some ⟨pushVals (os.map (img H M)) st, refs m'.length, heap', m'.length⟩ ∧
      Built H M m' heap' pend

variable {tupK : Nat → Bool}

theorem Loads.nil : Loads H tupK [] m [] m :=
  ⟨List.prefix_rfl, fun _ h => (nomatch h), fun _ _ _ _ heap _ hb => ⟨heap, rfl, hb⟩⟩

theorem Loads.append {os1 os2 m1 m2 : List Nat} {s1 s2 : List POp}
    (h1 : Loads H tupK os1 m s1 m1) (h2 : Loads H tupK os2 m1 s2 m2) :
    Loads H tupK (os1 ++ os2) m (s1 ++ s2) m2 := by
  refine ⟨h1.pre.trans h2.pre, fun c hc => ?_, fun M hM hn st heap pend hb => ?_⟩
  · rcases List.mem_append.mp hc with hc | hc
    · exact (h1.known c hc).mono h2.pre
    · exact h2.known c hc
  · obtain ⟨heap1, r1, b1⟩ := h1.run M (h2.pre.trans hM) hn.left st heap pend hb
    obtain ⟨heap2, r2, b2⟩ := h2.run M hM hn.right _ heap1 pend b1
    rw [List.map_append, pushVals_append]
    exact ⟨heap2, vmRun_trans r1 r2, b2⟩

theorem rec_ok (hwf : KindsWF H tupK) :
    ∀ f o m s m', rec H f o m = some (s, m') → Loads H tupK [o] m s m' := by
  have known : ∀ {m o}, Known H m o → ∀ x ∈ [o], Known H m x :=
    fun h _ hx => List.mem_singleton.mp hx ▸ h
  have get : ∀ {m M o i tup k bs as}, H o = .node tup k bs as → m <+: M → memoIdx m o = some i →
      (refs m.length)[i]? = some (img H M o) :=
    fun hH hM hm => by
      rw [img_node hH (memoIdx_prefix hM hm), getElem?_refs (memoIdx_some hm).1]
  refine rec_induct (PL := Loads H tupK) ?hit ?atom Loads.nil (Loads.append (os1 := [_]))
    ?tupAgain ?redAgain ?tup ?red
  case hit =>
    intro o m i hm
    refine ⟨List.prefix_rfl, known (.inr (memoIdx_some hm).2.2), fun M hM _ st heap pend hb => ?_⟩
    obtain ⟨tup, k, bs, as, _, hH, _⟩ := hb.node o i hm
    exact ⟨heap, vmRun_cons (vmStep_get_iff.mpr ⟨_, get hH hM hm, rfl⟩) rfl, hb⟩
  case atom =>
    intro o m a hm hH
    refine ⟨List.prefix_rfl, known (.inl ⟨a, hH⟩), fun M hM _ st heap pend hb => ⟨heap, ?_, hb⟩⟩
    simp only [List.map_singleton, img, phi, hH]
    rfl
  case redAgain =>
    -- a reduce met again while its arguments were being saved: `POP`
    intro o m k bs as s1 m1 i s2 m2 _ _ hbs hm1 has
    exact ⟨hbs.pre.trans has.pre, known (.inr (has.pre.subset (memoIdx_some hm1).2.2)),
      fun M _ hn => absurd rfl (hn.left.left.right .pop (by simp))⟩
  case tupAgain =>
    -- a tuple met again while its elements were being saved, completed in the nested call
    intro o m k bs as s1 m1 i hm hH hbs hm1
    refine ⟨hbs.pre, known (.inr (memoIdx_some hm1).2.2), fun M hM hn st heap pend hb => ?_⟩
    obtain ⟨heap1, r1, b1⟩ := hbs.run M hM hn.left.right (.mark :: st) heap pend hb
    exact ⟨heap1, vmRun_trans (vmRun_cons rfl r1) (vmRun_cons
        (vmStep_discard_iff.mpr ⟨_, _, rfl, List.length_map _, rfl⟩)
        (vmRun_cons (vmStep_get_iff.mpr ⟨_, get hH hM hm1, rfl⟩) rfl)), b1⟩
  case tup =>
    intro o m k bs as s1 m1 hm hH hbs hm1
    have ho := memoIdx_eq_none_iff.mp hm1
    have p1 : m1 <+: m1 ++ [o] := List.prefix_append _ _
    refine ⟨hbs.pre.trans p1, known (.inr (by simp)), fun M hM hn st heap pend hb => ?_⟩
    obtain ⟨heap1, r1, b1⟩ := hbs.run M (p1.trans hM) hn.left.right (.mark :: st) heap pend hb
    refine ⟨_, ?_, b1.add ho hH fun b hb' => (hbs.known b hb').mono (p1.trans hM)⟩
    rw [List.map_singleton, img_node hH (memoIdx_prefix hM (memoIdx_snoc_self ho)), List.length_append,
      List.length_singleton, refs_succ]
    exact vmRun_trans (vmRun_cons rfl r1)
      (vmRun_build_memo rfl (List.length_map _) (hwf o _ k bs as hH))
  case red =>
    intro o m k bs as s1 m1 s2 m2 hm hH hbs hm1 has
    have ho := memoIdx_eq_none_iff.mp hm1
    have p1 : m1 <+: m1 ++ [o] := List.prefix_append _ _
    have hi : memoIdx m2 o = some m1.length := memoIdx_prefix has.pre (memoIdx_snoc_self ho)
    refine ⟨(hbs.pre.trans p1).trans has.pre, known (.inr (memoIdx_some hi).2.2),
      fun M hM hn st heap pend hb => ?_⟩
    have pM := has.pre.trans hM
    obtain ⟨heap1, r1, b1⟩ :=
      hbs.run M (p1.trans pM) hn.left.left.left.right (.mark :: st) heap pend hb
    obtain ⟨heap3, r3, b3⟩ := has.run M hM hn.left.right
      (.amark :: .val (.ref m1.length) :: st) _ _
      (b1.add ho hH fun b hb' => (hbs.known b hb').mono (p1.trans pM))
    rw [List.length_append, List.length_singleton, refs_succ] at r3
    refine ⟨_, ?_, b3.close hH hi fun a ha => (has.known a ha).mono hM⟩
    rw [List.map_singleton, img_node hH (memoIdx_prefix hM hi)]
    exact vmRun_trans (vmRun_trans (vmRun_trans (vmRun_cons rfl r1)
        (vmRun_build_memo rfl (List.length_map _) (hwf o _ k bs as hH))) r3)
      (vmRun_cons (vmStep_build2_iff.mpr ⟨_, _, _, rfl, rfl⟩) rfl)

end Pk
end EG
