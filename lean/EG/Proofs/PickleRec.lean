import EG.Pickle
/-
  Lemmas of the definitions of EG.Pickle: memo positions, and `rec_induct`, the induction principle
  `rec` would have as an inductive relation (one case per way a `save` can end, two for the lists
  of children), so that the definition of `rec` is taken apart here and nowhere else.
-/
namespace EG
namespace Pk

theorem memoIdx_some {m : List Nat} {o i : Nat} (h : memoIdx m o = some i) :
    i < m.length ∧ m[i]? = some o ∧ o ∈ m := by
  unfold memoIdx at h
  simp only at h
  split at h
  · rename_i hlt
    cases h
    have hm : o ∈ m := List.idxOf_lt_length_iff.mp hlt
    refine ⟨hlt, ?_, hm⟩
    rw [List.getElem?_eq_getElem hlt]
    simp [List.getElem_idxOf]
  · cases h

theorem memoIdx_eq_none_iff {m : List Nat} {o : Nat} : memoIdx m o = none ↔ o ∉ m := by
  simp [memoIdx, List.idxOf_lt_length_iff]

theorem memoIdx_of_mem {m : List Nat} {o : Nat} (h : o ∈ m) : ∃ i, memoIdx m o = some i := by
  cases hm : memoIdx m o with
  | some i => exact ⟨i, rfl⟩
  | none => exact absurd h (memoIdx_eq_none_iff.mp hm)

theorem memoIdx_append_of_mem {m e : List Nat} {o : Nat} (h : o ∈ m) :
    memoIdx (m ++ e) o = memoIdx m o := by
  unfold memoIdx
  have h1 : (m ++ e).idxOf o = m.idxOf o := by rw [List.idxOf_append, if_pos h]
  have h2 : m.idxOf o < m.length := List.idxOf_lt_length_iff.mpr h
  simp only [h1, List.length_append]
  rw [if_pos (by omega), if_pos h2]

theorem memoIdx_snoc_self {m : List Nat} {o : Nat} (h : o ∉ m) :
    memoIdx (m ++ [o]) o = some m.length := by
  unfold memoIdx
  have h1 : (m ++ [o]).idxOf o = m.length := by
    rw [List.idxOf_append, if_neg h]; simp
  simp only [h1, List.length_append, List.length_singleton]
  rw [if_pos (by omega)]

theorem recListWith_induct {r : Nat → List Nat → Option (List POp × List Nat)}
    {P : Nat → List Nat → List POp → List Nat → Prop}
    {PL : List Nat → List Nat → List POp → List Nat → Prop}
    (hr : ∀ o memo s m, r o memo = some (s, m) → P o memo s m)
    (nil : ∀ {memo}, PL [] memo [] memo)
    (cons : ∀ {o os memo s m s' m'}, P o memo s m → PL os m s' m' → PL (o :: os) memo (s ++ s') m') :
    ∀ os memo s m, recListWith r os memo = some (s, m) → PL os memo s m := by
  intro os
  induction os with
  | nil =>
    intro memo s m h
    obtain ⟨rfl, rfl⟩ := Prod.mk.inj (Option.some.inj h)
    exact nil
  | cons o os ih =>
    intro memo s m h
    simp only [recListWith] at h
    split at h
    · cases h
    · rename_i s1 m1 h1
      split at h
      · cases h
      · rename_i s2 m2 h2
        obtain ⟨rfl, rfl⟩ := Prod.mk.inj (Option.some.inj h)
        exact cons (hr _ _ _ _ h1) (ih _ _ _ h2)

theorem rec_induct {H : Heap} {P : Nat → List Nat → List POp → List Nat → Prop}
    {PL : List Nat → List Nat → List POp → List Nat → Prop}
    (hit : ∀ {o memo i}, memoIdx memo o = some i → P o memo [.get i] memo)
    (atom : ∀ {o memo a}, memoIdx memo o = none → H o = .atom a → P o memo [.atom a] memo)
    (nil : ∀ {memo}, PL [] memo [] memo)
    (cons : ∀ {o os memo s m s' m'}, P o memo s m → PL os m s' m' → PL (o :: os) memo (s ++ s') m')
    (tupAgain : ∀ {o memo k bs as s1 m1 i}, memoIdx memo o = none → H o = .node true k bs as →
      PL bs memo s1 m1 → memoIdx m1 o = some i →
      P o memo ([.opn k] ++ s1 ++ [.discard k bs.length, .get i]) m1)
    (redAgain : ∀ {o memo k bs as s1 m1 i s2 m2}, memoIdx memo o = none → H o = .node false k bs as →
      PL bs memo s1 m1 → memoIdx m1 o = some i → PL as m1 s2 m2 →
      P o memo ([.opn k] ++ s1 ++ [.build1 k bs.length, .pop, .get i] ++ s2 ++ [.build2 k]) m2)
    (tup : ∀ {o memo k bs as s1 m1}, memoIdx memo o = none → H o = .node true k bs as →
      PL bs memo s1 m1 → memoIdx m1 o = none →
      P o memo ([.opn k] ++ s1 ++ [.build1 k bs.length, .memo]) (m1 ++ [o]))
    (red : ∀ {o memo k bs as s1 m1 s2 m2}, memoIdx memo o = none → H o = .node false k bs as →
      PL bs memo s1 m1 → memoIdx m1 o = none → PL as (m1 ++ [o]) s2 m2 →
      P o memo ([.opn k] ++ s1 ++ [.build1 k bs.length, .memo] ++ s2 ++ [.build2 k]) m2) :
    ∀ f o memo s m, rec H f o memo = some (s, m) → P o memo s m := by
  intro f
  induction f with
  | zero => intro o memo s m h; cases h
  | succ f ih =>
    have ihL := recListWith_induct (PL := PL) ih nil cons
    intro o memo s m h
    simp only [rec] at h
    split at h
    · rename_i i hm
      obtain ⟨rfl, rfl⟩ := Prod.mk.inj (Option.some.inj h)
      exact hit hm
    · rename_i hm
      split at h
      · rename_i a hH
        obtain ⟨rfl, rfl⟩ := Prod.mk.inj (Option.some.inj h)
        exact atom hm hH
      · rename_i t k bs as hH
        split at h
        · cases h
        · rename_i s1 m1 hb
          have hb := ihL _ _ _ _ hb
          split at h
          · rename_i i hm1
            cases t with
            | true =>
              obtain ⟨rfl, rfl⟩ := Prod.mk.inj (Option.some.inj h)
              exact tupAgain hm hH hb hm1
            | false =>
              simp only [Bool.false_eq_true, if_false] at h
              split at h
              · cases h
              · rename_i s2 m2 ha
                obtain ⟨rfl, rfl⟩ := Prod.mk.inj (Option.some.inj h)
                exact redAgain hm hH hb hm1 (ihL _ _ _ _ ha)
          · rename_i hm1
            cases t with
            | true =>
              obtain ⟨rfl, rfl⟩ := Prod.mk.inj (Option.some.inj h)
              exact tup hm hH hb hm1
            | false =>
              simp only [Bool.false_eq_true, if_false] at h
              split at h
              · cases h
              · rename_i s2 m2 ha
                obtain ⟨rfl, rfl⟩ := Prod.mk.inj (Option.some.inj h)
                exact red hm hH hb hm1 (ihL _ _ _ _ ha)

end Pk
end EG
