import EG.Proofs.PickleVM
/-
  Helper lemmas for EG/Props/C10Sim.lean: the abstract unpickler cannot tell `Build1 k n, Pop, Get i`
  from `Discard k n, Get i`, except that the first leaves one unreachable object behind, which shifts
  every later address.  `VSim fs B A`: machine `A` is machine `B` with every reference `r` renamed to
  `fs[r]`, an injection; `A` may hold garbage outside its image.  `VSim` and `WF` have one
  preservation lemma per primitive update of the machine; a step composes a few of these.
-/
namespace EG
namespace Pk

def mapV (fs : List Nat) : Val → Val
  | .atom a => .atom a
  | .ref r => .ref (fs.getD r 0)

def mapSV (fs : List Nat) : SV → SV
  | .mark => .mark
  | .amark => .amark
  | .val v => .val (mapV fs v)

def mapNode (fs : List Nat) (n : VNode) : VNode := ⟨n.kind, n.before.map (mapV fs), n.after.map (mapV fs)⟩

def VOk (n : Nat) : Val → Prop
  | .atom _ => True
  | .ref r => r < n

def SVOk (n : Nat) : SV → Prop
  | .val v => VOk n v
  | _ => True

theorem VOk.mono {n m : Nat} {v : Val} (h : VOk n v) (hnm : n ≤ m) : VOk m v := by
  cases v with
  | atom a => trivial
  | ref r => exact Nat.lt_of_lt_of_le h hnm

theorem SVOk.mono {n m : Nat} {x : SV} (h : SVOk n x) (hnm : n ≤ m) : SVOk m x := by
  cases x with
  | val v => exact VOk.mono h hnm
  | mark => trivial
  | amark => trivial

/-- every reference held anywhere in the machine is allocated -/
structure WF (B : VM) : Prop where
  stack : ∀ x ∈ B.stack, SVOk B.next x
  memo : ∀ v ∈ B.memo, VOk B.next v
  heap : ∀ r, r < B.next → (∀ v ∈ (B.heap r).before, VOk B.next v) ∧ (∀ v ∈ (B.heap r).after, VOk B.next v)

/-- `A` is `B` with every reference `r` renamed to `fs[r]`, injectively; `A` may hold garbage -/
structure VSim (fs : List Nat) (B A : VM) : Prop where
  len : fs.length = B.next
  stack : A.stack = B.stack.map (mapSV fs)
  memo : A.memo = B.memo.map (mapV fs)
  heap : ∀ r, r < B.next → A.heap (fs.getD r 0) = mapNode fs (B.heap r)
  lt : ∀ r, r < B.next → fs.getD r 0 < A.next
  inj : ∀ r r', r < B.next → r' < B.next → fs.getD r 0 = fs.getD r' 0 → r = r'

theorem getD_append_lt (fs e : List Nat) (r : Nat) (h : r < fs.length) : (fs ++ e).getD r 0 = fs.getD r 0 := by
  simp only [List.getD_eq_getElem?_getD, List.getElem?_append_left h]

theorem getD_append_len (fs : List Nat) (x : Nat) : (fs ++ [x]).getD fs.length 0 = x := by
  simp [List.getD_eq_getElem?_getD]

section append
variable {fs : List Nat} {n : Nat} (e : List Nat) (hl : fs.length = n)
include hl

theorem mapV_append {v : Val} (h : VOk n v) : mapV (fs ++ e) v = mapV fs v := by
  cases v with
  | atom a => rfl
  | ref r => simp only [mapV, getD_append_lt fs e r (hl ▸ h)]

theorem map_mapV_append {vs : List Val} (h : ∀ v ∈ vs, VOk n v) :
    vs.map (mapV (fs ++ e)) = vs.map (mapV fs) :=
  List.map_congr_left fun v hv => mapV_append e hl (h v hv)

theorem map_mapSV_append {st : List SV} (h : ∀ x ∈ st, SVOk n x) :
    st.map (mapSV (fs ++ e)) = st.map (mapSV fs) := by
  refine List.map_congr_left fun x hx => ?_
  cases x with
  | val v => simp only [mapSV, mapV_append e hl (h _ hx)]
  | mark => rfl
  | amark => rfl

theorem mapNode_append {nd : VNode} (h1 : ∀ v ∈ nd.before, VOk n v)
    (h2 : ∀ v ∈ nd.after, VOk n v) : mapNode (fs ++ e) nd = mapNode fs nd := by
  simp only [mapNode, map_mapV_append e hl h1, map_mapV_append e hl h2]

end append

/-- unreachable garbage in `A` does not disturb the simulation -/
theorem VSim.garbage {fs : List Nat} {B A : VM} (h : VSim fs B A) (g : VNode) :
    VSim fs B { A with heap := upd A.heap A.next g, next := A.next + 1 } := by
  refine ⟨h.len, h.stack, h.memo, ?_, ?_, h.inj⟩
  · intro r hr
    show upd A.heap A.next g (fs.getD r 0) = _
    rw [upd_other _ _ _ _ (Nat.ne_of_lt (h.lt r hr))]
    exact h.heap r hr
  · intro r hr; exact Nat.lt_succ_of_lt (h.lt r hr)

section prims
variable {fs : List Nat} {B A : VM}

theorem VSim.stack_pushVals (hs : VSim fs B A) {vs : List Val} {st : List SV}
    (h : B.stack = pushVals vs st) : A.stack = pushVals (vs.map (mapV fs)) (st.map (mapSV fs)) := by
  rw [hs.stack, h]
  simp only [pushVals, List.map_append, List.map_reverse, List.map_map]
  rfl

theorem WF.stack_pushVals (hw : WF B) {vs : List Val} {st : List SV}
    (h : B.stack = pushVals vs st) : (∀ v ∈ vs, VOk B.next v) ∧ ∀ x ∈ st, SVOk B.next x := by
  have hst := hw.stack
  rw [h] at hst
  exact ⟨fun v hv => hst (.val v) (by simp [pushVals, hv]),
    fun x hx => hst x (by simp [pushVals, hx])⟩

theorem VSim.setStack (hs : VSim fs B A) {st stA : List SV} (h : stA = st.map (mapSV fs)) :
    VSim fs { B with stack := st } { A with stack := stA } :=
  ⟨hs.len, h, hs.memo, hs.heap, hs.lt, hs.inj⟩

theorem WF.setStack (hw : WF B) {st : List SV} (h : ∀ x ∈ st, SVOk B.next x) :
    WF { B with stack := st } :=
  ⟨h, hw.memo, hw.heap⟩

theorem VSim.push (hs : VSim fs B A) (x : SV) :
    VSim fs { B with stack := x :: B.stack } { A with stack := mapSV fs x :: A.stack } :=
  hs.setStack (by rw [hs.stack]; rfl)

theorem WF.push (hw : WF B) {x : SV} (hx : SVOk B.next x) : WF { B with stack := x :: B.stack } :=
  hw.setStack (List.forall_mem_cons.mpr ⟨hx, hw.stack⟩)

theorem VSim.pushMemo (hs : VSim fs B A) (v : Val) :
    VSim fs { B with memo := B.memo ++ [v] } { A with memo := A.memo ++ [mapV fs v] } := by
  refine ⟨hs.len, hs.stack, ?_, hs.heap, hs.lt, hs.inj⟩
  show A.memo ++ [mapV fs v] = (B.memo ++ [v]).map (mapV fs)
  rw [hs.memo, List.map_append]
  rfl

theorem WF.pushMemo (hw : WF B) {v : Val} (hv : VOk B.next v) :
    WF { B with memo := B.memo ++ [v] } :=
  ⟨hw.stack, List.forall_mem_append.mpr ⟨hw.memo, List.forall_mem_singleton.mpr hv⟩, hw.heap⟩

/-- `B` allocates a node that `A` holds already, at an address `a` outside the image of `fs` -/
theorem VSim.extend (hs : VSim fs B A) (hw : WF B) {a : Nat} (n : VNode) (ha : a < A.next)
    (hfresh : ∀ r, r < B.next → fs.getD r 0 ≠ a) (hn : A.heap a = mapNode fs n)
    (hb : ∀ v ∈ n.before, VOk B.next v) (hna : ∀ v ∈ n.after, VOk B.next v) :
    VSim (fs ++ [a]) { B with heap := upd B.heap B.next n, next := B.next + 1 } A := by
  have hl := hs.len
  have e1 : (fs ++ [a]).getD B.next 0 = a := by rw [← hl]; exact getD_append_len fs a
  have e2 : ∀ r, r < B.next → (fs ++ [a]).getD r 0 = fs.getD r 0 :=
    fun r hr => getD_append_lt fs _ r (by rw [hl]; exact hr)
  refine ⟨by simp [hl], ?_, ?_, ?_, ?_, ?_⟩
  · show A.stack = B.stack.map (mapSV (fs ++ [a]))
    rw [map_mapSV_append [a] hl hw.stack]
    exact hs.stack
  · show A.memo = B.memo.map (mapV (fs ++ [a]))
    rw [map_mapV_append [a] hl hw.memo]
    exact hs.memo
  · intro r hr
    show A.heap ((fs ++ [a]).getD r 0) = mapNode (fs ++ [a]) (upd B.heap B.next n r)
    rcases Nat.lt_succ_iff_lt_or_eq.mp hr with hr' | rfl
    · rw [e2 r hr', upd_other _ _ _ _ (Nat.ne_of_lt hr'), hs.heap r hr',
        mapNode_append [a] hl (hw.heap r hr').1 (hw.heap r hr').2]
    · rw [e1, upd_same, hn, mapNode_append [a] hl hb hna]
  · intro r hr
    show (fs ++ [a]).getD r 0 < A.next
    rcases Nat.lt_succ_iff_lt_or_eq.mp hr with hr' | rfl
    · rw [e2 r hr']; exact hs.lt r hr'
    · rw [e1]; exact ha
  · intro r r' hr hr' he
    rcases Nat.lt_succ_iff_lt_or_eq.mp hr with h | rfl
    · rcases Nat.lt_succ_iff_lt_or_eq.mp hr' with h' | rfl
      · rw [e2 r h, e2 r' h'] at he
        exact hs.inj r r' h h' he
      · rw [e2 r h, e1] at he
        exact absurd he (hfresh r h)
    · rcases Nat.lt_succ_iff_lt_or_eq.mp hr' with h' | rfl
      · rw [e1, e2 r' h'] at he
        exact absurd he.symm (hfresh r' h')
      · rfl

theorem VSim.alloc (hs : VSim fs B A) (hw : WF B) (n : VNode)
    (hb : ∀ v ∈ n.before, VOk B.next v) (ha : ∀ v ∈ n.after, VOk B.next v) :
    VSim (fs ++ [A.next]) { B with heap := upd B.heap B.next n, next := B.next + 1 }
      { A with heap := upd A.heap A.next (mapNode fs n), next := A.next + 1 } :=
  (hs.garbage (mapNode fs n)).extend hw n (Nat.lt_succ_self _)
    (fun r hr => Nat.ne_of_lt (hs.lt r hr)) (upd_same _ _ _) hb ha

theorem WF.alloc (hw : WF B) (n : VNode) (hb : ∀ v ∈ n.before, VOk B.next v)
    (ha : ∀ v ∈ n.after, VOk B.next v) :
    WF { B with heap := upd B.heap B.next n, next := B.next + 1 } := by
  have up : ∀ {v}, VOk B.next v → VOk (B.next + 1) v := fun h => VOk.mono h (Nat.le_succ _)
  refine ⟨fun x hx => SVOk.mono (hw.stack x hx) (Nat.le_succ _), fun v hv => up (hw.memo v hv), ?_⟩
  intro r hr
  show (∀ v ∈ (upd B.heap B.next n r).before, VOk (B.next + 1) v) ∧
    (∀ v ∈ (upd B.heap B.next n r).after, VOk (B.next + 1) v)
  rcases Nat.lt_succ_iff_lt_or_eq.mp hr with hr' | rfl
  · rw [upd_other _ _ _ _ (Nat.ne_of_lt hr')]
    exact ⟨fun v hv => up ((hw.heap r hr').1 v hv), fun v hv => up ((hw.heap r hr').2 v hv)⟩
  · rw [upd_same]
    exact ⟨fun v hv => up (hb v hv), fun v hv => up (ha v hv)⟩

theorem VSim.setAfter (hs : VSim fs B A) {r : Nat} (hr : r < B.next) (vs : List Val) :
    VSim fs { B with heap := upd B.heap r { B.heap r with after := vs } }
      { A with heap := upd A.heap (fs.getD r 0)
                        { A.heap (fs.getD r 0) with after := vs.map (mapV fs) } } := by
  refine ⟨hs.len, hs.stack, hs.memo, ?_, hs.lt, hs.inj⟩
  intro r' hr'
  show upd A.heap (fs.getD r 0) _ (fs.getD r' 0) = mapNode fs (upd B.heap r _ r')
  by_cases he : r' = r
  · subst he
    rw [upd_same, upd_same, hs.heap r' hr']
    rfl
  · rw [upd_other _ _ _ _ (fun h => he (hs.inj r' r hr' hr h)), upd_other _ _ _ _ he]
    exact hs.heap r' hr'

theorem WF.setAfter (hw : WF B) (r : Nat) {vs : List Val} (hvs : ∀ v ∈ vs, VOk B.next v) :
    WF { B with heap := upd B.heap r { B.heap r with after := vs } } := by
  refine ⟨hw.stack, hw.memo, ?_⟩
  intro r' hr'
  show (∀ v ∈ (upd B.heap r _ r').before, VOk B.next v) ∧
    (∀ v ∈ (upd B.heap r _ r').after, VOk B.next v)
  by_cases he : r' = r
  · subst he
    rw [upd_same]
    exact ⟨(hw.heap r' hr').1, hvs⟩
  · rw [upd_other _ _ _ _ he]
    exact hw.heap r' hr'

theorem VSim.hasAfterOf (hs : VSim fs B A) (tupK : Nat → Bool) {v : Val} (hv : VOk B.next v) :
    hasAfterOf tupK A.heap (mapV fs v) = hasAfterOf tupK B.heap v := by
  cases v with
  | atom a => rfl
  | ref r => simp only [mapV, Pk.hasAfterOf, hs.heap r hv, mapNode]

end prims

theorem step_sim (tupK : Nat → Bool) {fs : List Nat} {B A B' : VM} (op : POp)
    (hs : VSim fs B A) (hw : WF B) (hb : vmStep tupK B op = some B') :
    ∃ fs' A', vmStep tupK A op = some A' ∧ VSim fs' B' A' ∧ WF B' := by
  cases op with
  | atom a =>
    obtain rfl := Option.some.inj hb
    exact ⟨fs, _, rfl, hs.push (.val (.atom a)), hw.push trivial⟩
  | opn k =>
    obtain rfl := Option.some.inj hb
    exact ⟨fs, _, rfl, hs.push .mark, hw.push trivial⟩
  | get i =>
    obtain ⟨v, hm, rfl⟩ := vmStep_get_iff.mp hb
    have hA : A.memo[i]? = some (mapV fs v) := by rw [hs.memo, List.getElem?_map, hm]; rfl
    exact ⟨fs, _, vmStep_get_iff.mpr ⟨_, hA, rfl⟩, hs.push (.val v),
      hw.push (hw.memo v (List.mem_of_getElem? hm))⟩
  | pop =>
    obtain ⟨v, rest, hst, rfl⟩ := vmStep_pop_iff.mp hb
    have hA : A.stack = .val (mapV fs v) :: rest.map (mapSV fs) := by rw [hs.stack, hst]; rfl
    exact ⟨fs, _, vmStep_pop_iff.mpr ⟨_, _, hA, rfl⟩, hs.setStack rfl,
      hw.setStack fun x hx => hw.stack x (hst ▸ List.mem_cons_of_mem _ hx)⟩
  | discard k n =>
    obtain ⟨vs, rest, hst, hl, rfl⟩ := vmStep_discard_iff.mp hb
    have g2 := (hw.stack_pushVals hst).2
    exact ⟨fs, _,
      vmStep_discard_iff.mpr ⟨_, _, hs.stack_pushVals hst, by rw [List.length_map]; exact hl, rfl⟩,
      hs.setStack rfl, hw.setStack fun x hx => g2 x (List.mem_cons_of_mem _ hx)⟩
  | memo =>
    obtain ⟨v, rest, hst, rfl⟩ := vmStep_memo_iff.mp hb
    have hA : A.stack = .val (mapV fs v) :: rest.map (mapSV fs) := by rw [hs.stack, hst]; rfl
    have hv : VOk B.next v := hw.stack (.val v) (hst ▸ List.mem_cons_self)
    refine ⟨fs, _, vmStep_memo_iff.mpr ⟨_, _, hA, rfl⟩, (hs.pushMemo v).setStack ?_,
      (hw.pushMemo hv).setStack ?_⟩
    · rw [hs.hasAfterOf tupK hv, hs.stack]
      cases hasAfterOf tupK B.heap v <;> rfl
    · cases hasAfterOf tupK B.heap v with
      | true => exact List.forall_mem_cons.mpr ⟨trivial, hw.stack⟩
      | false => exact hw.stack
  | build1 k n =>
    obtain ⟨vs, rest, hst, hl, rfl⟩ := vmStep_build1_iff.mp hb
    obtain ⟨g1, g2⟩ := hw.stack_pushVals hst
    have g2' : ∀ x ∈ rest, SVOk B.next x := fun x hx => g2 x (List.mem_cons_of_mem _ hx)
    refine ⟨fs ++ [A.next], _,
      vmStep_build1_iff.mpr ⟨_, _, hs.stack_pushVals hst, by rw [List.length_map]; exact hl, rfl⟩,
      (hs.alloc hw ⟨k, vs, []⟩ g1 (by simp)).setStack ?_,
      (hw.alloc ⟨k, vs, []⟩ g1 (by simp)).setStack ?_⟩
    · show SV.val (.ref A.next) :: rest.map (mapSV fs) =
        (SV.val (.ref B.next) :: rest).map (mapSV (fs ++ [A.next]))
      rw [List.map_cons, map_mapSV_append [A.next] hs.len g2', mapSV, mapV,
        ← hs.len, getD_append_len]
    · exact List.forall_mem_cons.mpr
        ⟨Nat.lt_succ_self _, fun x hx => SVOk.mono (g2' x hx) (Nat.le_succ _)⟩
  | build2 k =>
    obtain ⟨vs, r, rest, hst, rfl⟩ := vmStep_build2_iff.mp hb
    obtain ⟨g1, g2⟩ := hw.stack_pushVals hst
    have g2' : ∀ x ∈ SV.val (.ref r) :: rest, SVOk B.next x :=
      fun x hx => g2 x (List.mem_cons_of_mem _ hx)
    exact ⟨fs, _, vmStep_build2_iff.mpr ⟨_, _, _, hs.stack_pushVals hst, rfl⟩,
      (hs.setAfter (g2' _ List.mem_cons_self) vs).setStack rfl, (hw.setAfter r g1).setStack g2'⟩

theorem wf_empty : WF ({} : VM) :=
  ⟨fun x hx => by simp at hx, fun v hv => by simp at hv, fun r hr => by simp at hr⟩

theorem vsim_empty : VSim [] ({} : VM) ({} : VM) :=
  ⟨rfl, rfl, rfl, fun r hr => by simp at hr, fun r hr => by simp at hr, fun r r' hr => by simp at hr⟩

-- `rest`, bound by the `match` of the statement, is not used in it
set_option linter.unusedVariables false in
/-- `Build1 k n, Pop` on `A` = leave one unreachable object behind, then `Discard k n` -/
theorem build_pop_eq_discard (tupK : Nat → Bool) (A : VM) (k n : Nat) (tl : List POp) :
    vmRun tupK A (.build1 k n :: .pop :: tl) =
      match popTo .mark A.stack with
      | some (vs, rest) =>
        if vs.length = n then
          vmRun tupK { A with heap := upd A.heap A.next ⟨k, vs, []⟩, next := A.next + 1 } (.discard k n :: tl)
        else none
      | none => none := by
  simp only [vmRun, vmStep]
  cases hp : popTo .mark A.stack with
  | none => rfl
  | some p =>
    obtain ⟨vs, _⟩ := p
    simp only []
    by_cases hl : vs.length = n
    · simp only [hl, if_true]
    · simp only [hl, if_false]

theorem run_sim_norm (tupK : Nat → Bool) (ops : List POp) : ∀ (fs : List Nat) (B A B' : VM),
    VSim fs B A → WF B → vmRun tupK B (normalize ops) = some B' →
    ∃ fs' A', vmRun tupK A ops = some A' ∧ VSim fs' B' A' ∧ WF B' := by
  fun_induction normalize ops with
  | case1 k n i rest ih =>
    intro fs B A B' hs hw hb
    -- `A` builds the object and pops it, which leaves garbage; then both machines discard and fetch
    obtain ⟨B1, h1, hb1⟩ := vmRun_cons_iff.mp hb
    obtain ⟨B2, h2, hb2⟩ := vmRun_cons_iff.mp hb1
    obtain ⟨vs, st, hst, hl, -⟩ := vmStep_discard_iff.mp h1
    rw [build_pop_eq_discard, (popTo_eq_some_iff no_val_mark).mpr (hs.stack_pushVals hst)]
    simp only [List.length_map, hl, if_true]
    obtain ⟨fs1, A1, e1, s1, w1⟩ :=
      step_sim tupK (.discard k n) (hs.garbage ⟨k, vs.map (mapV fs), []⟩) hw h1
    obtain ⟨fs2, A2, e2, s2, w2⟩ := step_sim tupK (.get i) s1 w1 h2
    obtain ⟨fs3, A3, e3, s3, w3⟩ := ih fs2 B2 A2 B' s2 w2 hb2
    exact ⟨fs3, A3, vmRun_cons e1 (vmRun_cons e2 e3), s3, w3⟩
  | case2 op rest hne ih =>
    intro fs B A B' hs hw hb
    obtain ⟨B1, h1, hb1⟩ := vmRun_cons_iff.mp hb
    obtain ⟨fs1, A1, e1, s1, w1⟩ := step_sim tupK op hs hw h1
    obtain ⟨fs2, A2, e2, s2, w2⟩ := ih fs1 B1 A1 B' s1 w1 hb1
    exact ⟨fs2, A2, vmRun_cons e1 e2, s2, w2⟩
  | case3 =>
    intro fs B A B' hs hw hb
    obtain rfl := Option.some.inj hb
    exact ⟨fs, A, rfl, hs, hw⟩

end Pk
end EG
