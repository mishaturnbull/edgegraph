import EG.PickleLoad
/-
  Lemmas of the definitions of EG.PickleLoad: `popTo` succeeds exactly on `pushVals vs (mk :: rest)`;
  one equivalence for each of the six opcodes of `vmStep` that can fail (from left to right it
  inverts a step, from right to left it performs one; `atom` and `opn` always succeed, by `rfl`);
  runs over `::` and `++`; `vmLoad`.
-/
namespace EG
namespace Pk

/-- the values `vs` pushed one after the other -/
def pushVals (vs : List Val) (st : List SV) : List SV := (vs.map SV.val).reverse ++ st

theorem pushVals_nil (st : List SV) : pushVals [] st = st := rfl

theorem pushVals_snoc (vs : List Val) (v : Val) (st : List SV) :
    pushVals (vs ++ [v]) st = .val v :: pushVals vs st := by
  simp [pushVals]

theorem pushVals_append (vs ws : List Val) (st : List SV) :
    pushVals (vs ++ ws) st = pushVals ws (pushVals vs st) := by
  simp [pushVals]

theorem popTo_pushVals (mk : SV) (hmk : ∀ v, mk ≠ .val v) (vs : List Val) (rest : List SV) :
    popTo mk (pushVals vs (mk :: rest)) = some (vs, rest) := by
  have rev : ∀ l : List Val, popTo mk (l.map SV.val ++ mk :: rest) = some (l.reverse, rest) := by
    intro l
    induction l with
    | nil => simp [popTo]
    | cons v l ih =>
      simp only [List.map_cons, List.cons_append, popTo]
      rw [if_neg (fun h => hmk v h.symm), ih]
      simp
  simpa [pushVals, List.map_reverse] using rev vs.reverse

theorem no_val_mark : ∀ v, SV.mark ≠ .val v := fun v h => by cases h
theorem no_val_amark : ∀ v, SV.amark ≠ .val v := fun v h => by cases h

theorem popTo_eq_some_iff {mk : SV} (hmk : ∀ v, mk ≠ .val v) {st : List SV} {vs : List Val}
    {rest : List SV} : popTo mk st = some (vs, rest) ↔ st = pushVals vs (mk :: rest) := by
  constructor
  · intro h
    fun_induction popTo mk st generalizing vs with
    | case1 => cases h
    | case2 tl =>
      obtain ⟨rfl, rfl⟩ := Prod.mk.inj (Option.some.inj h)
      rfl
    | case3 tl v vs' r hp hx ih =>
      obtain ⟨rfl, rfl⟩ := Prod.mk.inj (Option.some.inj h)
      rw [pushVals_snoc, ← ih hp]
    | case4 => cases h
    | case5 => cases h
  · rintro rfl
    exact popTo_pushVals mk hmk vs rest

/-- the `hasAfter` of `vmStep` -/
def hasAfterOf (tupK : Nat → Bool) (heap : Nat → VNode) : Val → Bool
  | .ref r => !tupK (heap r).kind
  | .atom _ => false

theorem vmStep_get_iff {tupK : Nat → Bool} {s s' : VM} {i : Nat} :
    vmStep tupK s (.get i) = some s' ↔
      ∃ v, s.memo[i]? = some v ∧ s' = { s with stack := .val v :: s.stack } := by
  simp only [vmStep]
  cases s.memo[i]? with
  | none => simp
  | some v => simp [eq_comm]

theorem vmStep_pop_iff {tupK : Nat → Bool} {s s' : VM} :
    vmStep tupK s .pop = some s' ↔
      ∃ v rest, s.stack = .val v :: rest ∧ s' = { s with stack := rest } := by
  constructor
  · intro h
    simp only [vmStep] at h
    split at h
    · rename_i v rest hst
      exact ⟨v, rest, hst, (Option.some.inj h).symm⟩
    · cases h
  · rintro ⟨v, rest, hst, rfl⟩
    simp only [vmStep, hst]

theorem vmStep_memo_iff {tupK : Nat → Bool} {s s' : VM} :
    vmStep tupK s .memo = some s' ↔ ∃ v rest, s.stack = .val v :: rest ∧
      s' = { s with memo := s.memo ++ [v],
                    stack := if hasAfterOf tupK s.heap v then .amark :: s.stack else s.stack } := by
  constructor
  · intro h
    simp only [vmStep] at h
    split at h
    · rename_i v rest hst
      refine ⟨v, rest, hst, ?_⟩
      rw [← Option.some.inj h]
      cases v <;> rfl
    · cases h
  · rintro ⟨v, rest, hst, rfl⟩
    simp only [vmStep, hst]
    cases v <;> rfl

/-- the match shared by `build1` and `discard` -/
theorem popTo_mark_len_iff {α : Type} {st : List SV} {n : Nat} {X : List Val → List SV → α} {a : α} :
    (match popTo .mark st with
      | some (vs, rest) => if vs.length = n then some (X vs rest) else none
      | none => none) = some a ↔
    ∃ vs rest, st = pushVals vs (.mark :: rest) ∧ vs.length = n ∧ a = X vs rest := by
  constructor
  · intro h
    split at h
    · rename_i vs rest hp
      split at h
      · rename_i hl
        exact ⟨vs, rest, (popTo_eq_some_iff no_val_mark).mp hp, hl, (Option.some.inj h).symm⟩
      · cases h
    · cases h
  · rintro ⟨vs, rest, hst, hl, rfl⟩
    rw [hst, popTo_pushVals _ no_val_mark]
    simp only [hl, if_true]

theorem vmStep_build1_iff {tupK : Nat → Bool} {s s' : VM} {k n : Nat} :
    vmStep tupK s (.build1 k n) = some s' ↔
      ∃ vs rest, s.stack = pushVals vs (.mark :: rest) ∧ vs.length = n ∧
        s' = { s with stack := .val (.ref s.next) :: rest,
                      heap := upd s.heap s.next ⟨k, vs, []⟩, next := s.next + 1 } :=
  popTo_mark_len_iff (α := VM) (X := fun vs rest =>
    { s with stack := .val (.ref s.next) :: rest,
             heap := upd s.heap s.next ⟨k, vs, []⟩, next := s.next + 1 })

theorem vmStep_discard_iff {tupK : Nat → Bool} {s s' : VM} {k n : Nat} :
    vmStep tupK s (.discard k n) = some s' ↔
      ∃ vs rest, s.stack = pushVals vs (.mark :: rest) ∧ vs.length = n ∧
        s' = { s with stack := rest } :=
  popTo_mark_len_iff (α := VM) (X := fun _ rest => { s with stack := rest })

theorem vmStep_build2_iff {tupK : Nat → Bool} {s s' : VM} {k : Nat} :
    vmStep tupK s (.build2 k) = some s' ↔
      ∃ vs r rest, s.stack = pushVals vs (.amark :: .val (.ref r) :: rest) ∧
        s' = { s with stack := .val (.ref r) :: rest,
                      heap := upd s.heap r { s.heap r with after := vs } } := by
  simp only [vmStep]
  constructor
  · intro h
    split at h
    · rename_i vs r rest hp
      exact ⟨vs, r, rest, (popTo_eq_some_iff no_val_amark).mp hp, (Option.some.inj h).symm⟩
    · cases h
  · rintro ⟨vs, r, rest, hst, rfl⟩
    rw [hst, popTo_pushVals _ no_val_amark]

theorem vmRun_append (tupK : Nat → Bool) (s : VM) (a b : List POp) :
    vmRun tupK s (a ++ b) = (vmRun tupK s a).bind fun s' => vmRun tupK s' b := by
  induction a generalizing s with
  | nil => simp [vmRun]
  | cons op a ih =>
    simp only [List.cons_append, vmRun]
    cases vmStep tupK s op with
    | none => simp
    | some s' => exact ih s'

theorem vmRun_trans {tupK : Nat → Bool} {S S1 S2 : VM} {a b : List POp}
    (h1 : vmRun tupK S a = some S1) (h2 : vmRun tupK S1 b = some S2) :
    vmRun tupK S (a ++ b) = some S2 := by
  simp only [vmRun_append, h1, Option.bind_some, h2]

theorem vmRun_cons_iff {tupK : Nat → Bool} {s s' : VM} {op : POp} {ops : List POp} :
    vmRun tupK s (op :: ops) = some s' ↔
      ∃ s1, vmStep tupK s op = some s1 ∧ vmRun tupK s1 ops = some s' := by
  simp only [vmRun]
  cases vmStep tupK s op with
  | none => simp
  | some s1 => simp

theorem vmRun_cons {tupK : Nat → Bool} {S S1 S2 : VM} {op : POp} {ops : List POp}
    (h1 : vmStep tupK S op = some S1) (h2 : vmRun tupK S1 ops = some S2) :
    vmRun tupK S (op :: ops) = some S2 :=
  vmRun_cons_iff.mpr ⟨S1, h1, h2⟩

theorem vmRun_build_memo {tupK : Nat → Bool} {s : VM} {vs : List Val} {rest : List SV} {n k : Nat}
    {tup : Bool} (h : s.stack = pushVals vs (.mark :: rest)) (hn : vs.length = n) (ht : tupK k = tup) :
    vmRun tupK s [.build1 k n, .memo] = some
      { stack := if tup then .val (.ref s.next) :: rest else .amark :: .val (.ref s.next) :: rest,
        memo := s.memo ++ [.ref s.next],
        heap := upd s.heap s.next ⟨k, vs, []⟩, next := s.next + 1 } := by
  refine vmRun_cons (vmStep_build1_iff.mpr ⟨vs, rest, h, hn, rfl⟩)
    (vmRun_cons (vmStep_memo_iff.mpr ⟨_, _, rfl, ?_⟩) rfl)
  simp only [hasAfterOf, upd_same, ht]
  cases tup <;> rfl

theorem vmLoad_eq_some_iff {tupK : Nat → Bool} {ops : List POp} {v : Val} {S : VM} :
    vmLoad tupK ops = some (v, S) ↔ vmRun tupK {} ops = some S ∧ S.stack = [.val v] := by
  unfold vmLoad
  constructor
  · intro h
    split at h
    · rename_i S0 hr
      split at h
      · rename_i v0 hst
        obtain ⟨rfl, rfl⟩ := Prod.mk.inj (Option.some.inj h)
        exact ⟨hr, hst⟩
      · cases h
    · cases h
  · rintro ⟨hr, hst⟩
    simp only [hr, hst]

end Pk
end EG
