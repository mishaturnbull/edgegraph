import EG.TableSpec
import EG.Step
import EG.Proofs.Sym
/-
  EG.Proofs.QueryLemmas — `neighbors` and `find_links`, link by link.  One link contributes the
  verdict of the `if / elif` cascade (`M.pre`), then the filter's, on the opposite end (`M.other`);
  the same cascade serves both loop bodies (`pre_find`).  Each loop is a fold of its per-link
  outcomes (`nbLoop_eq`, `flLoop_eq`); the rest is said about folds of arbitrary outcomes.  The
  set `find_links` builds is, as a list, `dedupKeepFirst` of the `found` links (`flFold_ok`).
  Two vocabularies: `nbOne` / `nbFold` / `flOne` / `flFold` are the proof form (closed, generic in the
  outcome function); `posOf` … `relOf` at the head and `linkOut` / `collect` / `flOut` / `TwoEndedAt`
  at the end are the words of the C04 / C09 statements, defined from the loops themselves; `linkOut_eq` and
  `flOut_eq` bridge them.  Lemmas live in namespace `M` like the loops they are about; the words
  of the statements and the theorems stated with them in `EG`.
-/
namespace EG
open Tab

/-- position of `v` in a link whose two ends are `a`, `b` -/
def posOf (a b : Option VId) (v : VId) : Pos :=
  if a = some v ∧ b = some v then .both else if a = some v then .v1 else if b = some v then .v2 else .neither

/-- the opposite end -/
def otherOf (a b : Option VId) (v : VId) : Option VId :=
  if a = some v then b else if b = some v then a else none

/-- the filter outcome on link `l` with opposite end `x` -/
def filtOf (F : Nat → LId → Option VId → Bool) (filt : Option Nat) (l : LId) (x : Option VId) : Filt :=
  match filt with
  | none => .none
  | some k => if F k l x then .acc else .rej

/-- relation of a link with ends `[x, y]` to the queried pair (a, b) -/
def relOf (x y : Option VId) (a b : VId) : Rel :=
  if otherOf x y a ≠ some b then .away
  else if a = b then .loop
  else if x = some a then .ab else .ba

namespace M

theorem other_pair {w : World} {l : LId} {x y : Option VId} {rest : List (Option VId)}
    (he : w.ends l = x :: y :: rest) (hk : (w.lcls l).kind ≠ .nary) (e : VId) :
    other w l e = .ok (otherOf x y e) := by
  simp only [other, he, hk, ↓reduceIte, otherOf]
  split
  · rfl
  · split <;> rfl

theorem otherOf_eq_some (x y : Option VId) (v t : VId) :
    otherOf x y v = some t ↔ (x = some v ∧ y = some t) ∨ (x = some t ∧ y = some v) := by
  unfold otherOf; grind

theorem pre_congr {k : Kind} {a b a' b' : Option VId} {v v' : VId} {dir unk : Nat}
    (h1 : a = some v ↔ a' = some v') (h2 : b = some v ↔ b' = some v') :
    pre k a b v dir unk = pre k a' b' v' dir unk := by
  simp only [pre, h1, h2]

theorem pre_backward (k : Kind) (a b : Option VId) (v : VId) (unk : Nat) :
    pre k a b v 2 unk = pre k b a v 0 unk := by
  simp [pre]

/-- the verdict, then the filter's (`acc`), on the opposite end `o` -/
def Pre.out (p : Pre) (acc : Bool) (o : Option VId) : Out :=
  match p with
  | .skip => .skip
  | .raise e => .raise e
  | .filt => if acc then .emit o else .skip

def Pre.found (p : Pre) (acc : Bool) : FOut :=
  match p with
  | .skip => .absent
  | .raise e => .raise e
  | .filt => if acc then .found else .absent

theorem Pre.out_eq_emit (p : Pre) (acc : Bool) (o t : Option VId) :
    p.out acc o = .emit t ↔ p = .filt ∧ acc = true ∧ o = t := by
  cases p <;> cases acc <;> simp [Pre.out]

theorem Pre.found_eq_found (p : Pre) (acc : Bool) : p.found acc = .found ↔ p = .filt ∧ acc = true := by
  cases p <;> cases acc <;> simp [Pre.found]

def accepts (F : Nat → LId → Option VId → Bool) (filt : Option Nat) (l : LId) (o : Option VId) :
    Bool :=
  match filt with
  | none => true
  | some k => F k l o

/-- what the body of the `neighbors` loop does with ONE link (no fault injection), read off the
    link's own class and ends: `other` raises on an n-ary class or on fewer than two ends -/
def nbOne (w : World) (F : Nat → LId → Option VId → Bool) (v : VId) (dir unk : Nat)
    (filt : Option Nat) (l : LId) : Out :=
  if (w.lcls l).kind = .nary then .raise .attribute else
  match w.ends l with
  | x :: y :: _ =>
    (pre (w.lcls l).kind x y v dir unk).out (accepts F filt l (otherOf x y v)) (otherOf x y v)
  | _ => .raise .index

/-- what the body of the `find_links` loop does with ONE link (no fault injection): the link must
    lead to `b`, and `neighbors` — FORWARD if direction sensitive, ANY if not — must follow it -/
def flOne (w : World) (F : Nat → LId → Option VId → Bool) (a b : VId) (ds : Bool) (unk : Nat)
    (filt : Option Nat) (l : LId) : FOut :=
  if (w.lcls l).kind = .nary then .raise .attribute else
  match w.ends l with
  | x :: y :: _ =>
    if otherOf x y a = some b then
      (pre (w.lcls l).kind x y a (if ds then 0 else 1) unk).found (accepts F filt l none)
    else .absent
  | _ => .raise .index

/-- the direction tests of `find_links` are the cascade of `neighbors`, FORWARD or ANY, for a
    link that has `a` at an end -/
theorem pre_find (k : Kind) (x y : Option VId) (a : VId) (ds : Bool) (unk : Nat)
    (ha : x = some a ∨ y = some a) :
    pre k x y a (if ds then 0 else 1) unk =
      if ds && k != .undirected && k != .directed && unk != 0 && unk != 1 then .raise .notImpl
      else if !(if ds then
          if k = .undirected then true
          else if k = .directed then decide (x = some a)
          else decide (unk = 1)
        else true) then .skip
      else .filt := by
  cases ds
  · simp [pre]
  · cases k <;> simp [pre]
    · by_cases hx : x = some a
      · simp [hx]
      · simp [hx, ha.resolve_left hx]
    all_goals grind    -- neither kind: `unknown_handling` decides, alike on both sides

theorem nbOne_pair {w : World} {l : LId} {x y : Option VId} {rest : List (Option VId)}
    (he : w.ends l = x :: y :: rest)
    (hk : (w.lcls l).kind ≠ .nary) (F : Nat → LId → Option VId → Bool) (v : VId) (dir unk : Nat)
    (filt : Option Nat) :
    nbOne w F v dir unk filt l =
      (pre (w.lcls l).kind x y v dir unk).out (accepts F filt l (otherOf x y v)) (otherOf x y v) := by
  simp only [nbOne, he, hk, ↓reduceIte]

theorem flOne_pair {w : World} {l : LId} {x y : Option VId} {rest : List (Option VId)}
    (he : w.ends l = x :: y :: rest)
    (hk : (w.lcls l).kind ≠ .nary) (F : Nat → LId → Option VId → Bool) (a b : VId) (ds : Bool)
    (unk : Nat) (filt : Option Nat) :
    flOne w F a b ds unk filt l =
      if otherOf x y a = some b then
        (pre (w.lcls l).kind x y a (if ds then 0 else 1) unk).found (accepts F filt l none)
      else .absent := by
  simp only [flOne, he, hk, ↓reduceIte]

section
variable (w : World) (F : Nat → LId → Option VId → Bool)

theorem nbOne_dual (v t : VId) (unk : Nat)
    (l : LId) :
    (nbOne w F v 0 unk none l = .emit (some t) ↔ nbOne w F t 2 unk none l = .emit (some v)) ∧
    (nbOne w F v 0 unk none l = .emit (some t) → some t ∈ w.ends l ∧ some v ∈ w.ends l) := by
  by_cases hk : (w.lcls l).kind = .nary
  · simp [nbOne, hk]
  match he : w.ends l with
  | [] | [_] => simp [nbOne, hk, he]
  | x :: y :: rest =>
    simp only [nbOne_pair he hk, Pre.out_eq_emit, otherOf_eq_some, accepts, true_and, pre_backward]
    -- the link begins `[v, t]` or `[t, v]`, and then `v` stands in it as `t` stands in its reverse
    have hp : (x = some v ∧ y = some t) ∨ (x = some t ∧ y = some v) →
        pre (w.lcls l).kind x y v 0 unk = pre (w.lcls l).kind y x t 0 unk := by
      rintro (⟨rfl, rfl⟩ | ⟨rfl, rfl⟩) <;> exact pre_congr (by simp [eq_comm]) (by simp [eq_comm])
    refine ⟨⟨fun ⟨h, hj⟩ => ⟨hp hj ▸ h, hj.symm⟩, fun ⟨h, hj⟩ => ⟨hp hj.symm ▸ h, hj.symm⟩⟩, ?_⟩
    rintro ⟨-, ⟨rfl, rfl⟩ | ⟨rfl, rfl⟩⟩ <;> simp

theorem flOne_found_iff (a b : VId) (ds : Bool)
    (unk : Nat) (filt : Option Nat) (l : LId) (hF : ∀ k l x, F k l x = F k l none) :
    flOne w F a b ds unk filt l = .found ↔
      nbOne w F a (if ds then 0 else 1) unk filt l = .emit (some b) := by
  have hacc : ∀ o, accepts F filt l o = accepts F filt l none := by
    intro o; cases filt <;> simp only [accepts]; exact hF ..
  simp only [flOne, nbOne]
  split
  · simp
  · split
    · simp only [Pre.out_eq_emit, hacc]; split <;> simp [Pre.found_eq_found, *]
    · simp

/-- in-order collection of per-link outcomes, stopping at the first raise -/
def nbFold (out : LId → Out) : List LId → Except Err (List (Option VId))
  | [] => .ok []
  | l :: ls =>
    match out l with
    | .raise e => .error e
    | .skip => nbFold out ls
    | .emit x => (nbFold out ls).map (x :: ·)

/-- the set of `found` links, in order of first occurrence, or the first raise -/
def flFold (out : LId → FOut) : List LId → List LId → Except Err (List LId)
  | [], acc => .ok acc
  | l :: ls, acc =>
    match out l with
    | .raise e => .error e
    | .absent => flFold out ls acc
    | .found => flFold out ls (if l ∈ acc then acc else acc ++ [l])

theorem nbLoop_eq (v : VId) (dir unk : Nat)
    (filt : Option Nat) (ls : List LId) : ∀ acc cnt,
    nbLoop w F v dir unk filt none ls acc cnt =
      (nbFold (nbOne w F v dir unk filt) ls).map (acc ++ ·) := by
  induction ls with
  | nil => intro acc cnt; simp [nbLoop, nbFold, Except.map]
  | cons l ls ih =>
    intro acc cnt
    by_cases hk : (w.lcls l).kind = .nary
    · simp [nbLoop, nbFold, nbOne, other, hk, Except.map]
    match he : w.ends l with
    | [] | [_] => simp [nbLoop, nbFold, nbOne, other, hk, he, Except.map]
    | x :: y :: rest =>
      simp only [nbLoop, nbFold, nbOne_pair he hk, other_pair he hk, he, List.getD_cons_zero,
        List.getD_cons_succ]
      cases pre (w.lcls l).kind x y v dir unk with
      | skip => exact ih ..
      | raise e => rfl
      | filt =>
        cases filt with
        | none => simp [Pre.out, accepts, ih, Except.map]; cases nbFold _ ls <;> simp
        | some k =>
          cases hF : F k l (otherOf x y v) <;> simp [Pre.out, accepts, hF, ih, Except.map]
          cases nbFold _ ls <;> simp

theorem flLoop_eq (a b : VId) (ds : Bool)
    (unk : Nat) (filt : Option Nat) (ls : List LId) : ∀ acc cnt,
    flLoop w F a b ds unk filt none ls acc cnt = flFold (flOne w F a b ds unk filt) ls acc := by
  induction ls with
  | nil => intro acc cnt; rfl
  | cons l ls ih =>
    intro acc cnt
    by_cases hk : (w.lcls l).kind = .nary
    · simp [flLoop, flFold, flOne, other, hk]
    match he : w.ends l with
    | [] | [_] => simp [flLoop, flFold, flOne, other, hk, he]
    | x :: y :: rest =>
      simp only [flLoop, flFold, flOne_pair he hk, other_pair he hk, he, List.getD_cons_zero]
      by_cases hb : otherOf x y a = some b
      · have ha := ((otherOf_eq_some x y a b).mp hb).imp And.left And.right
        simp only [hb, ne_eq, not_true_eq_false, ↓reduceIte, pre_find _ _ _ _ _ _ ha]
        generalize (ds && (w.lcls l).kind != Kind.undirected && (w.lcls l).kind != Kind.directed &&
          unk != 0 && unk != 1) = rs
        generalize (if ds = true then
            if (w.lcls l).kind = Kind.undirected then true
            else if (w.lcls l).kind = Kind.directed then decide (x = some a)
            else decide (unk = 1)
          else true) = cs
        cases rs <;> cases cs <;> cases filt <;> simp [Pre.found, accepts, ih]
        split <;> simp [*]
      · simp [hb, ih]

theorem neighborsPure_eq (v : VId) (dir unk : Nat)
    (filt : Option Nat) :
    neighborsPure w F v dir unk filt = nbFold (nbOne w F v dir unk filt) (w.links v) := by
  rw [neighborsPure, nbLoop_eq]
  cases nbFold (nbOne w F v dir unk filt) (w.links v) <;> simp [Except.map]

theorem findLinks_eq (a b : VId) (ds : Bool)
    (unk : Nat) (filt : Option Nat) :
    findLinks w F a b ds unk filt = flFold (flOne w F a b ds unk filt) (w.links a) [] :=
  flLoop_eq ..

theorem nbOne_filter (v : VId) (dir unk : Nat)
    (k : Nat) (l : LId) :
    nbOne w F v dir unk (some k) l = nbOne w F v dir unk none l ∨
      (nbOne w F v dir unk (some k) l = .skip ∧ ∃ x, nbOne w F v dir unk none l = .emit x) := by
  simp only [nbOne]
  split
  · exact .inl rfl
  · split
    · generalize pre _ _ _ v dir unk = p
      generalize otherOf _ _ v = o
      cases p <;> cases h : F k l o <;> simp [Pre.out, accepts, h]
    · exact .inl rfl

end

theorem nbLoop_fault (w : World) (F : Nat → LId → Option VId → Bool) (v : VId) (dir unk : Nat)
    (filt fault : Option Nat) (ls : List LId) : ∀ acc cnt,
    nbLoop w F v dir unk filt fault ls acc cnt = nbLoop w F v dir unk filt none ls acc cnt ∨
      nbLoop w F v dir unk filt fault ls acc cnt = .error .fault := by
  induction ls with
  | nil => intro _ _; exact .inl rfl
  | cons l ls ih =>
    intro acc cnt
    simp only [nbLoop]
    cases other w l v with
    | error e => exact .inl rfl
    | ok o =>
      cases pre (w.lcls l).kind ((w.ends l).getD 0 none) ((w.ends l).getD 1 none) v dir unk with
      | skip => exact ih ..
      | raise e => exact .inl rfl
      | filt =>
        cases filt with
        | none => exact ih ..
        | some k =>
          by_cases hf : fault = some (cnt + 1)
          · simp [hf]
          · simp only [hf, reduceCtorEq, ↓reduceIte]
            split <;> exact ih ..

theorem nbOne_congr (w w' : World) (F : Nat → LId → Option VId → Bool) (v : VId) (dir unk : Nat)
    (filt : Option Nat) (l : LId) (h1 : w'.lcls l = w.lcls l) (h2 : w'.ends l = w.ends l) :
    nbOne w' F v dir unk filt l = nbOne w F v dir unk filt l := by
  simp only [nbOne, h1, h2]

theorem flOne_congr (w w' : World) (F : Nat → LId → Option VId → Bool) (a b : VId)
    (ds : Bool) (unk : Nat) (filt : Option Nat) (l : LId)
    (h1 : w'.lcls l = w.lcls l) (h2 : w'.ends l = w.ends l) :
    flOne w' F a b ds unk filt l = flOne w F a b ds unk filt l := by
  simp only [flOne, h1, h2]

theorem nbFold_congr {out out' : LId → Out} (ls : List LId) (h : ∀ l ∈ ls, out' l = out l) :
    nbFold out' ls = nbFold out ls := by
  induction ls with
  | nil => rfl
  | cons l ls ih =>
    simp only [nbFold, h l List.mem_cons_self, ih fun l' hl' => h l' (List.mem_cons_of_mem _ hl')]

/-- the fold commutes with a relabelling `σ` of the links and `g` of the emitted ends -/
theorem nbFold_map {out out' : LId → Out} {σ : LId → LId} {g : Option VId → Option VId}
    (ls : List LId) (h : ∀ l ∈ ls, out' (σ l) = match out l with
      | .emit x => .emit (g x) | .skip => .skip | .raise e => .raise e) :
    nbFold out' (ls.map σ) = (nbFold out ls).map (List.map g) := by
  induction ls with
  | nil => rfl
  | cons l ls ih =>
    have ih' := ih fun l' hl' => h l' (List.mem_cons_of_mem _ hl')
    simp only [List.map_cons, nbFold, h l List.mem_cons_self, ih']
    cases out l with
    | emit x => cases nbFold out ls <;> rfl
    | _ => rfl

theorem nbFold_count (out : LId → Out) (t : Option VId) (ls : List LId) (r : List (Option VId))
    (h : nbFold out ls = .ok r) :
    r.count t = (ls.filter (fun l => decide (out l = .emit t))).length := by
  induction ls generalizing r with
  | nil => cases h; rfl
  | cons l ls ih =>
    simp only [nbFold] at h
    cases h1 : out l with
    | raise e => simp [h1] at h
    | skip => simp [h1, ih r (by simpa [h1] using h)]
    | emit x =>
      cases h2 : nbFold out ls with
      | error e => simp [h1, h2, Except.map] at h
      | ok r' =>
        simp only [h1, h2, Except.map, Except.ok.injEq] at h
        subst h
        by_cases hx : x = t <;> simp [h1, ih r' h2, hx]

theorem nbFold_restrict (out out' : LId → Out) (ls : List LId)
    (h : ∀ l, out' l = out l ∨ (out' l = .skip ∧ ∃ x, out l = .emit x)) :
    (∀ e, nbFold out' ls = .error e ↔ nbFold out ls = .error e) ∧
    (∀ r r0, nbFold out' ls = .ok r → nbFold out ls = .ok r0 → r.Sublist r0) := by
  induction ls with
  | nil => simp [nbFold]
  | cons l ls ih =>
    obtain ⟨ih1, ih2⟩ := ih
    simp only [nbFold]
    rcases h l with h1 | ⟨h1, x, h2⟩
    · rw [h1]
      cases out l with
      | raise e => simp
      | skip => exact ⟨ih1, ih2⟩
      | emit x =>
        cases h0 : nbFold out ls <;> cases h0' : nbFold out' ls <;> simp_all [Except.map]
    · rw [h1, h2]
      cases h0 : nbFold out ls <;> cases h0' : nbFold out' ls <;> simp_all [Except.map]

/-- the accumulator is a set kept as a list, `dedupKeepFirst` of what was inserted so far: a
    returning loop ends with the `found` links inserted after them -/
theorem flFold_ok (out : LId → FOut) (ls pre J : List LId)
    (h : flFold out ls (dedupKeepFirst pre) = .ok J) :
    J = dedupKeepFirst (pre ++ ls.filter fun l => out l = .found) := by
  induction ls generalizing pre with
  | nil => cases h; simp
  | cons l ls ih =>
    simp only [flFold] at h
    cases h1 : out l with
    | raise e => simp [h1] at h
    | absent => simpa [h1] using ih pre (by simpa [h1] using h)
    | found =>
      simp only [h1, mem_dedupKeepFirst, ← dedup_snoc] at h
      simpa [h1] using ih (pre ++ [l]) h

theorem flFold_raises (out : LId → FOut) (ls acc : List LId) :
    (∃ e, flFold out ls acc = .error e) ↔ ∃ l ∈ ls, ∃ e, out l = .raise e := by
  induction ls generalizing acc with
  | nil => simp [flFold]
  | cons l ls ih =>
    simp only [flFold]
    cases h1 : out l <;> simp [h1, ih]

/-- links whose outcome is `absent` may be left out of the list, and the others read through
    an outcome function that agrees on them -/
theorem flFold_filter {out out' : LId → FOut} (p : LId → Bool) (ls : List LId)
    (h : ∀ l ∈ ls, if p l then out' l = out l else out l = .absent) :
    ∀ acc, flFold out' (ls.filter p) acc = flFold out ls acc := by
  induction ls with
  | nil => intro acc; rfl
  | cons l ls ih =>
    intro acc
    have ih' := ih fun l' hl' => h l' (List.mem_cons_of_mem _ hl')
    have hl := h l List.mem_cons_self
    cases hp : p l <;> simp only [hp, Bool.false_eq_true, ↓reduceIte] at hl
    · simp [hp, flFold, hl, ih']
    · simp only [List.filter_cons, hp, ↓reduceIte, flFold, hl, ih']

theorem flFold_all_absent (out : LId → FOut) (ls : List LId) (h : ∀ l ∈ ls, out l = .absent)
    (acc : List LId) : flFold out ls acc = .ok acc := by
  rw [← flFold_filter (out' := out) (fun _ => false) ls (by simpa using h),
    List.filter_eq_nil_iff.mpr (by simp)]
  rfl

theorem posOf_first (a b : Option VId) (v : VId) :
    (posOf a b v = .v1 ∨ posOf a b v = .both) ↔ a = some v := by
  unfold posOf; by_cases a = some v <;> by_cases b = some v <;> simp [*]

theorem posOf_second (a b : Option VId) (v : VId) :
    (posOf a b v = .v2 ∨ posOf a b v = .both) ↔ b = some v := by
  unfold posOf; by_cases a = some v <;> by_cases b = some v <;> simp [*]

theorem filtOf_ne_rej (F : Nat → LId → Option VId → Bool) (filt : Option Nat) (l : LId)
    (o : Option VId) : (filtOf F filt l o != .rej) = accepts F filt l o := by
  cases filt with
  | none => rfl
  | some k => simp only [filtOf, accepts]; cases F k l o <;> rfl

theorem specNbG_posOf (k : Kind) (a b : Option VId) (v : VId) (dir unk : Nat) (f : Filt)
    (o : Option VId) (hv : a = some v ∨ b = some v) :
    specNbG k (posOf a b v) dir unk f o = (pre k a b v dir unk).out (f != .rej) o := by
  unfold specNbG pre
  simp only [posOf_first, posOf_second]
  have hd : dir = 0 ∨ dir = 1 ∨ dir = 2 ∨ 2 < dir := by omega
  rcases hd with rfl | rfl | rfl | hd
  · -- FORWARD: a directed link is followed from its first end, an unknown one as `unk` says
    cases k <;> simp [Pre.out]
    · by_cases ha : a = some v
      · simp [ha]
      · simp [ha, hv.resolve_left ha]
    all_goals grind
  · simp [Pre.out]
  · -- BACKWARD: the same from the second end
    cases k <;> simp [Pre.out]
    · by_cases hb : b = some v
      · simp [hb]
      · simp [hb, hv.resolve_right hb]
    all_goals grind
  · have h0 : dir ≠ 0 := by omega
    have h1 : dir ≠ 1 := by omega
    have h2 : dir ≠ 2 := by omega
    simp [Pre.out, hd, h0, h1, h2]

theorem relOf_eq_away (x y : Option VId) (a b : VId) :
    relOf x y a b = .away ↔ otherOf x y a ≠ some b := by
  unfold relOf
  by_cases ho : otherOf x y a = some b
  · simp only [ho, ne_eq, not_true_eq_false, ↓reduceIte, iff_false]
    split
    · simp
    · split <;> simp
  · simp [ho]

theorem relOf_forward (x y : Option VId) (a b : VId) (ho : otherOf x y a = some b) :
    (relOf x y a b = .ab ∨ relOf x y a b = .loop) ↔ x = some a := by
  have hj := (otherOf_eq_some x y a b).mp ho
  unfold relOf
  simp only [ho, ne_eq, not_true_eq_false, ↓reduceIte]
  by_cases hab : a = b
  · subst hab
    simp only [↓reduceIte, reduceCtorEq, or_true, true_iff]
    exact hj.elim And.left And.left
  · by_cases hx : x = some a <;> simp [hab, hx]

theorem specFl_relOf (k : Kind) (x y : Option VId) (a b : VId) (ds : Bool) (unk : Nat) (f : Filt) :
    specFl k (relOf x y a b) ds unk f =
      if otherOf x y a = some b then (pre k x y a (if ds then 0 else 1) unk).found (f != .rej)
      else .absent := by
  unfold specFl
  by_cases ho : otherOf x y a = some b
  · have ha : x = some a ∨ y = some a := ((otherOf_eq_some x y a b).mp ho).imp And.left And.right
    have hna : relOf x y a b ≠ .away := fun h => (relOf_eq_away x y a b).mp h ho
    simp only [hna, relOf_forward x y a b ho, ho, if_true, if_false]
    cases ds
    · simp [pre, Pre.found]
    · cases k <;> simp [pre, Pre.found]
      · by_cases hx : x = some a
        · simp [hx]
        · simp [hx, ha.resolve_left hx]
      all_goals grind
  · simp [(relOf_eq_away x y a b).mpr ho, ho]
theorem ends_pair (es : List (Option VId)) (h : es.length = 2) : ∃ x y, es = [x, y] := by
  match es, h with
  | [x, y], _ => exact ⟨x, y, rfl⟩

end M

/-- outcome of the loop body for ONE link -/
def linkOut (w : World) (F : Nat → LId → Option VId → Bool) (v : VId) (dir unk : Nat)
    (filt : Option Nat) (l : LId) : Out :=
  ofResult (M.nbLoop w F v dir unk filt none [l] [] 0)

/-- `nbFold` of `linkOut`, written out as a recursion of its own for the C04 statement -/
def collect (w : World) (F : Nat → LId → Option VId → Bool) (v : VId) (dir unk : Nat)
    (filt : Option Nat) : List LId → Except Err (List (Option VId))
  | [] => .ok []
  | l :: ls =>
    match linkOut w F v dir unk filt l with
    | .raise e => .error e
    | .skip => collect w F v dir unk filt ls
    | .emit x =>
      match collect w F v dir unk filt ls with
      | .error e => .error e
      | .ok r => .ok (x :: r)

/-- every link of `x` is two-ended with exactly two ends -/
def TwoEndedAt (w : World) (x : VId) : Prop :=
  ∀ l ∈ w.links x, (w.lcls l).kind ≠ .nary ∧ (w.ends l).length = 2

/-- outcome of the `find_links` loop body for ONE link -/
def flOut (w : World) (F : Nat → LId → Option VId → Bool) (a b : VId) (ds : Bool) (unk : Nat)
    (filt : Option Nat) (l : LId) : FOut :=
  match M.flLoop w F a b ds unk filt none [l] [] 0 with
  | .error e => .raise e
  | .ok [] => .absent
  | .ok _ => .found

theorem neighborsPure_congr (w w' : World) (F : Nat → LId → Option VId → Bool) (x : VId)
    (dir unk : Nat) (filt : Option Nat) (hl : w'.links x = w.links x)
    (h : ∀ l ∈ w.links x, w'.lcls l = w.lcls l ∧ w'.ends l = w.ends l) :
    M.neighborsPure w' F x dir unk filt = M.neighborsPure w F x dir unk filt := by
  rw [M.neighborsPure_eq, M.neighborsPure_eq, hl]
  exact M.nbFold_congr _ fun l hl => M.nbOne_congr w w' F x dir unk filt l (h l hl).1 (h l hl).2

section
variable (w : World) (F : Nat → LId → Option VId → Bool)

theorem linkOut_eq (v : VId) (dir unk : Nat)
    (filt : Option Nat) (l : LId) : linkOut w F v dir unk filt l = M.nbOne w F v dir unk filt l := by
  rw [linkOut, M.nbLoop_eq]
  simp only [M.nbFold]
  cases M.nbOne w F v dir unk filt l <;> rfl

/-- the per-link rule for a link of a two-ended class that lists further ends after `a`, `b`
    (`Link.add_vertex` appends them): they play no part -/
theorem linkOut_rule (v : VId) (dir unk : Nat)
    (filt : Option Nat) (l : LId) (a b : Option VId) {rest : List (Option VId)}
    (he : w.ends l = a :: b :: rest) (hk : (w.lcls l).kind ≠ .nary) (hv : a = some v ∨ b = some v) :
    linkOut w F v dir unk filt l =
      specNbG (w.lcls l).kind (posOf a b v) dir unk (filtOf F filt l (otherOf a b v)) (otherOf a b v) := by
  rw [linkOut_eq, M.nbOne_pair he hk, M.specNbG_posOf _ _ _ _ _ _ _ _ hv, M.filtOf_ne_rej]

theorem fwd_bwd_duality (v t : VId) (unk : Nat)
    (hs : Sym w) (r1 r2 : List (Option VId))
    (h1 : M.neighborsPure w F v 0 unk none = .ok r1) (h2 : M.neighborsPure w F t 2 unk none = .ok r2) :
    r1.count (some t) = r2.count (some v) := by
  rw [M.neighborsPure_eq] at h1 h2
  rw [M.nbFold_count _ (some t) _ r1 h1, M.nbFold_count _ (some v) _ r2 h2]
  apply List.Perm.length_eq
  rw [List.perm_ext_iff_of_nodup ((hs.nodup v).sublist List.filter_sublist)
    ((hs.nodup t).sublist List.filter_sublist)]
  intro l
  obtain ⟨d1, d2⟩ := M.nbOne_dual w F v t unk l
  simp only [List.mem_filter, decide_eq_true_eq]
  -- the link that leads from `v` to `t` lists both, so both list it
  exact ⟨fun ⟨_, ho⟩ => ⟨(hs.iff t l).mpr (d2 ho).1, d1.mp ho⟩,
    fun ⟨_, ho⟩ => ⟨(hs.iff v l).mpr (d2 (d1.mpr ho)).2, d1.mpr ho⟩⟩

theorem flOut_eq (a b : VId) (ds : Bool)
    (unk : Nat) (filt : Option Nat) (l : LId) :
    flOut w F a b ds unk filt l = M.flOne w F a b ds unk filt l := by
  rw [flOut, M.flLoop_eq]
  simp only [M.flFold]
  cases M.flOne w F a b ds unk filt l <;> rfl

theorem flOut_rule (a b : VId) (ds : Bool)
    (unk : Nat) (filt : Option Nat) (l : LId) (x y : Option VId) {rest : List (Option VId)}
    (he : w.ends l = x :: y :: rest) (hk : (w.lcls l).kind ≠ .nary) :
    flOut w F a b ds unk filt l =
      specFl (w.lcls l).kind (relOf x y a b) ds unk (filtOf F filt l none) := by
  rw [flOut_eq, M.flOne_pair he hk, M.specFl_relOf, M.filtOf_ne_rej]

theorem findLinks_length (a b : VId) (unk : Nat)
    (filt : Option Nat) (hn : (w.links a).Nodup) (hF : ∀ k l x, F k l x = F k l none)
    (J : List LId) (r : List (Option VId)) (ds : Bool)
    (h1 : M.findLinks w F a b ds unk filt = .ok J)
    (h2 : M.neighborsPure w F a (if ds then 0 else 1) unk filt = .ok r) :
    J.length = r.count (some b) := by
  rw [M.neighborsPure_eq] at h2
  rw [M.findLinks_eq] at h1
  rw [M.nbFold_count _ (some b) _ r h2, M.flFold_ok _ _ [] J h1, List.nil_append,
    dedupKeepFirst_of_nodup (hn.sublist List.filter_sublist)]
  congr 1
  exact List.filter_congr fun l _ => by simp only [M.flOne_found_iff w F a b ds unk filt l hF]

end

end EG
