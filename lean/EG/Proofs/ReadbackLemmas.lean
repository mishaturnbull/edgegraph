import EG.Proofs.BuildLemmas
import EG.Proofs.QueryLemmas
/-
  EG.Proofs.ReadbackLemmas — reading a built world back with `neighbors()`: a vertex without
  earlier links answers, in input order, with what the cascade `M.pre` makes of every listed
  pair that mentions it; then the rules of the link kinds and directions, each with its count.
-/
namespace EG
open Tab

/-- what a listed pair contributes to `neighbors(x)`: the other end (ANY, undirected), its second
    end if `x` is the first (FORWARD on a directed class), its first end if `x` is the second
    (BACKWARD) -/
def gSym (x : VId) (p : VId × VId) : Option (Option VId) :=
  some (if p.1 = x then some p.2 else some p.1)
def gFwd (x : VId) (p : VId × VId) : Option (Option VId) :=
  if p.1 = x then some (some p.2) else none
def gBwd (x : VId) (p : VId × VId) : Option (Option VId) :=
  if p.2 = x then some (some p.1) else none

/-- the cascade and the opposite end on a link `[a, b]`, with no filter -/
abbrev pairOut (k : Kind) (x : VId) (dir unk : Nat) (p : VId × VId) : Out :=
  (M.pre k (some p.1) (some p.2) x dir unk).out true (otherOf (some p.1) (some p.2) x)

abbrev asOut (o : Option (Option VId)) : Out :=
  match o with
  | some o => .emit o
  | none => .skip

/-- on a pair that mentions `x` the cascade is the rule of the C04 statement -/
theorem pairOut_spec (k : Kind) (x : VId) (dir unk : Nat) (p : VId × VId)
    (hv : p.1 = x ∨ p.2 = x) :
    pairOut k x dir unk p =
      specNbG k (posOf (some p.1) (some p.2) x) dir unk .none (otherOf (some p.1) (some p.2) x) :=
  (M.specNbG_posOf k _ _ x dir unk .none _ (hv.imp (congrArg some) (congrArg some))).symm

theorem pairOut_any (k : Kind) (x : VId) (unk : Nat) (p : VId × VId) (hv : p.1 = x ∨ p.2 = x) :
    pairOut k x 1 unk p = asOut (gSym x p) := by
  rw [pairOut_spec _ _ _ _ _ hv]
  simp only [specNbG, gSym, asOut, otherOf]
  by_cases h : p.1 = x <;> simp [h, hv.resolve_left]

theorem pairOut_und (x : VId) (dir unk : Nat) (hd : dir ≤ 2) (p : VId × VId)
    (hv : p.1 = x ∨ p.2 = x) : pairOut .undirected x dir unk p = asOut (gSym x p) := by
  rw [pairOut_spec _ _ _ _ _ hv]
  simp only [specNbG, gSym, asOut, otherOf, Nat.not_lt.mpr hd]
  by_cases h : p.1 = x <;> simp [h, hv.resolve_left]

theorem pairOut_fwd (x : VId) (unk : Nat) (p : VId × VId) (hv : p.1 = x ∨ p.2 = x) :
    pairOut .directed x 0 unk p = asOut (gFwd x p) := by
  rw [pairOut_spec _ _ _ _ _ hv]
  simp only [specNbG, M.posOf_first, gFwd, asOut, otherOf]
  by_cases h : p.1 = x <;> simp [h]

theorem pairOut_bwd (x : VId) (unk : Nat) (p : VId × VId) (hv : p.1 = x ∨ p.2 = x) :
    pairOut .directed x 2 unk p = asOut (gBwd x p) := by
  rw [pairOut_spec _ _ _ _ _ hv]
  simp only [specNbG, M.posOf_second, gBwd, asOut, otherOf]
  by_cases h : p.2 = x <;> simp [h]
  -- a self-loop lists `x` twice: the opposite end is `x` either way
  exact fun h => h.symm

/-- a fold of outcomes that only emit or skip is a `filterMap` -/
theorem M.nbFold_filterMap {ι : Type} (out : LId → Out) (σ : ι → LId)
    (e : ι → Option (Option VId)) (l : List ι) (h : ∀ a ∈ l, out (σ a) = asOut (e a)) :
    M.nbFold out (l.map σ) = .ok (l.filterMap e) := by
  induction l with
  | nil => rfl
  | cons a l ih =>
    rw [List.map_cons, M.nbFold, h a List.mem_cons_self,
      ih fun a' ha' => h a' (List.mem_cons_of_mem _ ha')]
    cases he : e a <;> simp [Except.map, he]

theorem map_getD_range {α : Type} (l : List α) (d : α) :
    (List.range l.length).map (l.getD · d) = l :=
  List.ext_getElem (by simp) fun i h _ => by
    simp [List.getD_eq_getElem?_getD, List.getElem?_eq_getElem (by simpa using h)]

/-- folding over the links `x` gained = going through the listed pairs that mention `x` -/
theorem nbFold_gained (out : LId → Out) (w : World) (x : VId) (g : VId × VId → Option (Option VId))
    (ps : List (VId × VId))
    (h : ∀ i (h : i < ps.length), (ps[i].1 = x ∨ ps[i].2 = x) → out (w.nL + i) = asOut (g ps[i])) :
    M.nbFold out (B.gained w ps x) =
      .ok ((ps.filter (fun p => p.1 == x || p.2 == x)).filterMap g) := by
  rw [B.gained, M.nbFold_filterMap out _ (fun i => g (ps.getD i (0, 0)))]
  · conv => rhs; rw [← map_getD_range ps (0, 0), List.filter_map, List.filterMap_map]
    rfl
  · intro i hi
    obtain ⟨hi, hm⟩ := List.mem_filter.mp hi
    have hi := List.mem_range.mp hi
    rw [List.getD_eq_getElem?_getD, List.getElem?_eq_getElem hi] at hm ⊢
    exact h i hi (by simpa using hm)

theorem B.Built'.readback {w w' : World} {c : LCls} {pairs : List (VId × VId)} {ms : List VId}
    (hb : B.Built' w w' c pairs ms) (hc : c.kind ≠ .nary) (F : Nat → LId → Option VId → Bool)
    (x : VId) (hnew : w.links x = []) (dir unk : Nat) (g : VId × VId → Option (Option VId))
    (hg : ∀ p, (p.1 = x ∨ p.2 = x) → pairOut c.kind x dir unk p = asOut (g p)) :
    M.neighborsPure w' F x dir unk none =
      .ok ((pairs.filter (fun p => p.1 == x || p.2 == x)).filterMap g) := by
  rw [M.neighborsPure_eq, hb.links, hnew, List.nil_append]
  refine nbFold_gained _ w x g pairs fun i h hm => ?_
  obtain ⟨he, hl⟩ := hb.built.new_links i h
  rw [M.nbOne_pair he (hl ▸ hc), hl]
  exact hg _ hm

theorem count_readback (g : VId × VId → Option (Option VId)) (q : VId × VId → Bool) (x y : VId)
    (ps : List (VId × VId))
    (h : ∀ p, (g p = some (some y) ∧ (p.1 = x ∨ p.2 = x)) ↔ q p = true) :
    ((ps.filter (fun p => p.1 == x || p.2 == x)).filterMap g).count (some y) =
      (ps.filter q).length := by
  rw [List.count_filterMap, List.countP_filter, ← List.countP_eq_length_filter]
  exact List.countP_congr fun p _ => by simpa using h p

theorem count_gFwd (x y : VId) (ps : List (VId × VId)) :
    (((ps.filter (fun p => p.1 == x || p.2 == x)).filterMap (gFwd x)).count (some y)) =
      (ps.filter (fun p => p.1 == x && p.2 == y)).length :=
  count_readback _ _ x y ps fun p => by simp only [gFwd]; split <;> simp_all

theorem count_gBwd (x y : VId) (ps : List (VId × VId)) :
    (((ps.filter (fun p => p.1 == x || p.2 == x)).filterMap (gBwd x)).count (some y)) =
      (ps.filter (fun p => p.1 == y && p.2 == x)).length :=
  count_readback _ _ x y ps fun p => by simp only [gBwd]; split <;> simp_all

/-- (x, y) and (y, x) both contribute `y`; the pairs are split by whether `x` is their first end -/
theorem count_gSym (x y : VId) (ps : List (VId × VId)) :
    (((ps.filter (fun p => p.1 == x || p.2 == x)).filterMap (gSym x)).count (some y)) =
      (ps.filter (fun p => p.1 == x && p.2 == y)).length +
        (if x = y then 0 else (ps.filter (fun p => p.1 == y && p.2 == x)).length) := by
  rw [count_readback (gSym x) (fun p => if p.1 = x then p.2 == y else p.1 == y && p.2 == x) x y ps
      fun p => by simp only [gSym]; split <;> simp_all,
    List.length_eq_countP_add_countP (·.1 == x), List.countP_filter, List.countP_filter,
    List.countP_eq_length_filter, List.countP_eq_length_filter]
  congr 1
  · exact congrArg _ (List.filter_congr fun p _ => by cases h : p.1 == x <;> simp_all)
  · split
    · exact List.length_eq_zero_iff.mpr (List.filter_eq_nil_iff.mpr fun p _ => by
        cases h : p.1 == x <;> simp_all)
    · exact congrArg _ (List.filter_congr fun p _ => by cases h : p.1 == x <;> simp_all)

section
variable {w w' : World} {c : LCls} {pairs : List (VId × VId)} {ms : List VId}
  (hb : B.Built' w w' c pairs ms) (F : Nat → LId → Option VId → Bool) (x y : VId)
  (hnew : w.links x = [])
include hb hnew

theorem B.Built'.readback_any (hc : c.kind ≠ .nary) (unk : Nat) :
    ∃ r, M.neighborsPure w' F x 1 unk none = .ok r ∧
      r.count (some y) = (pairs.filter (fun p => p.1 == x && p.2 == y)).length +
        (if x = y then 0 else (pairs.filter (fun p => p.1 == y && p.2 == x)).length) :=
  ⟨_, hb.readback hc F x hnew 1 unk (gSym x) (pairOut_any _ x unk), count_gSym x y pairs⟩

theorem B.Built'.readback_undirected (hc : c.kind = .undirected) (dir unk : Nat) (hd : dir ≤ 2) :
    ∃ r, M.neighborsPure w' F x dir unk none = .ok r ∧
      r.count (some y) = (pairs.filter (fun p => p.1 == x && p.2 == y)).length +
        (if x = y then 0 else (pairs.filter (fun p => p.1 == y && p.2 == x)).length) :=
  ⟨_, hb.readback (by simp [hc]) F x hnew dir unk (gSym x) (hc ▸ pairOut_und x dir unk hd),
    count_gSym x y pairs⟩

theorem B.Built'.readback_directed (hc : c.kind = .directed) (unk : Nat) :
    (∃ r, M.neighborsPure w' F x 0 unk none = .ok r ∧
      r.count (some y) = (pairs.filter (fun p => p.1 == x && p.2 == y)).length) ∧
    (∃ r, M.neighborsPure w' F x 2 unk none = .ok r ∧
      r.count (some y) = (pairs.filter (fun p => p.1 == y && p.2 == x)).length) :=
  ⟨⟨_, hb.readback (by simp [hc]) F x hnew 0 unk (gFwd x) (hc ▸ pairOut_fwd x unk),
      count_gFwd x y pairs⟩,
    ⟨_, hb.readback (by simp [hc]) F x hnew 2 unk (gBwd x) (hc ▸ pairOut_bwd x unk),
      count_gBwd x y pairs⟩⟩

end

end EG
