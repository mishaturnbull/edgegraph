import EG.Render
/-
  EG.Proofs.RenderLemmas — what the three renderers compute, loop by loop.
  Plain text and PlantUML run one loop, `mapE` (`renderLines` is an instance of it); PyVis folds
  `add_edge` over the list of edges asked for (`draws`).
-/
namespace EG
namespace R

theorem mapE_cons_eq_ok {α β : Type} (f : α → Except Err β) (x : α) (xs : List α) (ys : List β) :
    mapE f (x :: xs) = .ok ys ↔ ∃ y zs, f x = .ok y ∧ mapE f xs = .ok zs ∧ ys = y :: zs := by
  rw [mapE]
  cases f x with
  | error e => simp
  | ok y => cases mapE f xs <;> simp [eq_comm]

/-- success of `mapE`, characterised; the other `mapE_*` lemmas are its halves -/
theorem mapE_eq_ok {α β : Type} (f : α → Except Err β) (xs : List α) (ys : List β) :
    mapE f xs = .ok ys ↔ xs.map f = ys.map .ok := by
  induction xs generalizing ys with
  | nil => cases ys <;> simp [mapE]
  | cons x xs ih =>
    rw [mapE_cons_eq_ok, List.map_cons, eq_comm, List.map_eq_cons_iff]
    constructor
    · rintro ⟨y, zs, hy, hzs, rfl⟩; exact ⟨y, zs, rfl, hy.symm, ((ih zs).mp hzs).symm⟩
    · rintro ⟨y, zs, rfl, hy, hzs⟩; exact ⟨y, zs, hy.symm, (ih zs).mpr hzs.symm, rfl⟩

theorem mapE_ok_of {α β : Type} (f : α → Except Err β) (g : α → β) (xs : List α)
    (h : ∀ x ∈ xs, f x = .ok (g x)) : mapE f xs = .ok (xs.map g) := by
  rw [mapE_eq_ok, List.map_map]
  exact List.map_congr_left h

theorem mapE_error {α β : Type} (f : α → Except Err β) (g : α → β) (pre post : List α) (x : α)
    (e : Err) (hpre : ∀ x ∈ pre, f x = .ok (g x)) (hx : f x = .error e) :
    mapE f (pre ++ x :: post) = .error e := by
  induction pre with
  | nil => simp only [List.nil_append, mapE, hx]
  | cons p pre ih =>
    simp only [List.cons_append, mapE, hpre p (by simp), ih fun x hx => hpre x (by simp [hx])]

theorem mapE_ok {α β : Type} (f : α → Except Err β) (xs : List α) (ys : List β)
    (h : mapE f xs = .ok ys) :
    ys.length = xs.length ∧
    ∀ i (hi : i < xs.length), ∃ y, ys[i]? = some y ∧ f xs[i] = .ok y := by
  rw [mapE_eq_ok] at h
  have hl : ys.length = xs.length := by simpa using (congrArg List.length h).symm
  refine ⟨hl, fun i hi => ⟨ys[i]'(hl ▸ hi), List.getElem?_eq_getElem _, ?_⟩⟩
  simpa [List.getElem?_eq_getElem hi, List.getElem?_eq_getElem (hl ▸ hi)] using congrArg (·[i]?) h

/-- the line of one vertex in `basic_render` -/
def lineOf (w : World) (F : Nat → LId → Option VId → Bool) (rf : RFun)
    (sort : Option (Option VId → Nat)) (v : VId) : Except Err String :=
  (M.neighborsPure w F v 0 2 none).map fun nbs =>
    line rf v (match sort with | some key => sortBy key nbs | none => nbs)

section Text
variable {w : World} {F : Nat → LId → Option VId → Bool} {u : VId} {rf : RFun}
  {sort : Option (Option VId → Nat)}

theorem renderLines_eq_mapE {vs : List VId} :
    renderLines w F rf sort vs = mapE (lineOf w F rf sort) vs := by
  induction vs with
  | nil => rfl
  | cons v vs ih =>
    rw [renderLines, mapE, lineOf, ih]
    cases sort <;> cases M.neighborsPure w F v 0 2 none <;> cases mapE _ vs <;> rfl

theorem mem_sortBy_filterMap (key : Option VId → Nat) (ms : List VId) (v : VId) :
    v ∈ (sortBy key (ms.map some)).filterMap id ↔ v ∈ ms := by
  simp [sortBy, List.mem_filterMap]

theorem sortBy_perm (key : Option VId → Nat) (xs : List (Option VId)) :
    (sortBy key xs).Perm xs := List.mergeSort_perm _ _

theorem sortBy_pairwise (key : Option VId → Nat) (xs : List (Option VId)) :
    (sortBy key xs).Pairwise (fun a b => key a ≤ key b) := by
  have := List.pairwise_mergeSort (le := fun a b => decide (key a ≤ key b))
    (by intro a b c; simp; exact Nat.le_trans) (by intro a b; simp; exact Nat.le_total _ _) xs
  simpa [sortBy] using this

/-- the vertices in the order `basic_render` takes them -/
def vertsOf (w : World) (u : VId) : Option (Option VId → Nat) → List VId
  | some key => (sortBy key ((w.members u).map some)).filterMap id
  | none => w.members u

theorem basicRender_eq (hne : w.members u ≠ []) :
    basicRender w F u rf sort =
      (mapE (lineOf w F rf sort) (vertsOf w u sort)).map fun ls => some ("\n".intercalate ls) := by
  unfold basicRender
  rw [if_neg (by simpa using hne)]
  simp only [renderLines_eq_mapE]
  cases sort <;> simp only [vertsOf] <;> cases mapE _ _ <;> rfl

theorem basicRender_ok {nb : VId → List (Option VId)} (hne : w.members u ≠ [])
    (hnb : ∀ v ∈ w.members u, M.neighborsPure w F v 0 2 none = .ok (nb v)) :
    basicRender w F u rf sort = .ok (some ("\n".intercalate ((vertsOf w u sort).map fun v =>
      line rf v (match sort with | some key => sortBy key (nb v) | none => nb v)))) := by
  rw [basicRender_eq hne, mapE_ok_of _ _ _ fun v hv => ?_]
  · rfl
  · have hv' : v ∈ w.members u := by
      cases sort
      · exact hv
      · exact (mem_sortBy_filterMap _ _ v).mp hv
    rw [lineOf, hnb v hv']
    cases sort <;> rfl

theorem basicRender_error {nb : VId → List (Option VId)} {pre post : List VId} {v : VId} {e : Err}
    (hm : vertsOf w u sort = pre ++ v :: post)
    (hpre : ∀ x ∈ pre, M.neighborsPure w F x 0 2 none = .ok (nb x))
    (hv : M.neighborsPure w F v 0 2 none = .error e) :
    basicRender w F u rf sort = .error e := by
  have hne : w.members u ≠ [] := by
    intro h0
    have := congrArg List.length hm
    cases sort <;> simp [vertsOf, h0, sortBy] at this
  rw [basicRender_eq hne, hm, mapE_error _
    (fun x => line rf x (match sort with | some key => sortBy key (nb x) | none => nb x)) _ _ _ _
    (fun x hx => by rw [lineOf, hpre x hx]; cases sort <;> rfl) (by rw [lineOf, hv]; rfl)]
  rfl

end Text

theorem nodup_eraseDups {α : Type} [BEq α] [LawfulBEq α] (l : List α) : l.eraseDups.Nodup := by
  generalize hn : l.length = n
  induction n using Nat.strongRecOn generalizing l with
  | _ n ih =>
    cases l with
    | nil => simp
    | cons a as =>
      rw [List.eraseDups_cons, List.nodup_cons]
      refine ⟨by simp [List.mem_eraseDups], ih _ ?_ _ rfl⟩
      have := List.length_filter_le (fun b => !b == a) as
      simp at hn; omega

theorem declOf_ok (w : World) (o : POpts) (v : VId) (s : String) (h : declOf w o v = .ok s) :
    ∃ vo t, resolveV o (w.vcls v) = .ok vo ∧ title w vo v = .ok t ∧
      s = s!"{vo.type} {t} <<{clsName (w.vcls v)}>>" := by
  simp only [declOf] at h
  split at h
  · cases h
  · next vo hvo =>
    split at h
    · cases h
    · next t ht => exact ⟨vo, t, hvo, ht, (Except.ok.inj h).symm⟩

theorem relOf_ok (w : World) (o : POpts) (l : LId) (a b : VId) (rest : List (Option VId))
    (s : String) (he : w.ends l = some a :: some b :: rest) (h : relOf w o l = .ok s) :
    (w.lcls l).kind ≠ .nary ∧
      ∃ lo oa ob ta tb, resolveL o (w.lcls l) = .ok lo ∧ resolveV o (w.vcls a) = .ok oa ∧
      resolveV o (w.vcls b) = .ok ob ∧ title w oa a = .ok ta ∧ title w ob b = .ok tb ∧
      s = s!"{ta} {lo.v1side}--{lo.v2side} {tb}" := by
  simp only [relOf, he] at h
  split at h
  · cases h
  · next lo hlo =>
    split at h
    · cases h
    · next hk =>
      split at h
      · next oa ob hoa hob =>
        split at h
        · next ta tb hta htb =>
          exact ⟨hk, lo, oa, ob, ta, tb, hlo, hoa, hob, hta, htb, (Except.ok.inj h).symm⟩
        · cases h
        · cases h
      · cases h
      · cases h

theorem pumlDoc_ok (w : World) (o : POpts) (u : VId) (decls rels : List String)
    (h : pumlDoc w o u = .ok (some (decls, rels))) :
    mapE (declOf w o) (w.members u) = .ok decls ∧ mapE (relOf w o) (shownLinks w u) = .ok rels := by
  simp only [pumlDoc] at h
  split at h
  · cases h
  · cases hd : mapE (declOf w o) (w.members u) with
    | error e => simp [hd] at h
    | ok ds =>
      cases hr : mapE (relOf w o) (shownLinks w u) with
      | error e => simp [hd, hr] at h
      | ok rs => simpa [hd, hr] using h

theorem indexOf?_some (ms : List VId) (x : VId) (k : Nat) (h : indexOf? ms x = some k) :
    k < ms.length ∧ ms[k]? = some x := by
  simp only [indexOf?] at h
  split at h
  · rename_i hlt
    simp only [Option.some.injEq] at h
    subst h
    exact ⟨hlt, by rw [List.getElem?_eq_getElem hlt, List.getElem_idxOf hlt]⟩
  · cases h

theorem indexOf?_of_getElem? (ms : List VId) (hn : ms.Nodup) (x : VId) (k : Nat)
    (h : ms[k]? = some x) : indexOf? ms x = some k := by
  obtain ⟨hk, hx⟩ := List.getElem?_eq_some_iff.mp h
  subst hx
  simp [indexOf?, hn.idxOf_getElem k hk, hk]

variable {w : World} {ms : List VId} {re : Option (LId → String)} {i : Nat} {v : VId}

/-- `add_edge` of an edge record -/
def addE (es : List PEdge) (e : PEdge) : List PEdge := addEdge es e.src e.dst e.arrows e.title

/-- the edge that member number `i` = vertex `v` asks for on account of its link `l`: only a link
    running from `v` to a member is drawn -/
def drawOf (w : World) (ms : List VId) (re : Option (LId → String)) (i : Nat) (v : VId) (l : LId) :
    Option PEdge :=
  match w.ends l with
  | some a :: some b :: _ =>
    if a = v then (indexOf? ms b).map fun j => ⟨i, j, (w.lcls l).subDirected, re.map (· l)⟩ else none
  | _ => none

/-- one iteration of the link loop.  The from-node rule is proved here: the skip test and the
    three-way `other := …` cascade of `edgesOf` collapse to `drawOf`, an edge only when `v` is the
    FIRST end -/
theorem edgesOf_cons {l : LId} {ls : List LId} {es : List PEdge} :
    edgesOf w ms re i v (l :: ls) es =
      if (w.lcls l).kind = .nary then .error .attribute else
      match w.ends l with
      | _ :: _ :: _ => edgesOf w ms re i v ls ((drawOf w ms re i v l).elim es (addE es))
      | _ => .error .index := by
  rw [edgesOf]
  by_cases hk : (w.lcls l).kind = .nary
  · rw [if_pos hk, if_pos hk]
  · rw [if_neg hk, if_neg hk]
    match hE : w.ends l with
    | [] => rfl
    | [_] => rfl
    | none :: b :: rest => cases b <;> simp [drawOf, hE]
    | some a :: none :: rest => by_cases ha : a = v <;> simp [drawOf, hE, ha]
    | some a :: some b :: rest =>
      simp only [drawOf, hE]
      by_cases ha : a = v
      · subst ha
        cases hj : indexOf? ms b <;> simp [hj, addE]
      · by_cases hb : b = v <;> simp [ha, hb]

/-- a link `make_pyvis_net` can go through: two-ended class, two ends present -/
def Binary (w : World) (l : LId) : Prop :=
  (w.lcls l).kind ≠ .nary ∧ ∃ a b rest, w.ends l = a :: b :: rest

theorem edgesOf_eq_ok {ls : List LId} {es es' : List PEdge} :
    edgesOf w ms re i v ls es = .ok es' ↔
      (∀ l ∈ ls, Binary w l) ∧ es' = (ls.filterMap (drawOf w ms re i v)).foldl addE es := by
  induction ls generalizing es with
  | nil => simp [edgesOf, eq_comm]
  | cons l ls ih =>
    have hf : (List.filterMap (drawOf w ms re i v) (l :: ls)).foldl addE es =
        (ls.filterMap (drawOf w ms re i v)).foldl addE ((drawOf w ms re i v l).elim es (addE es)) := by
      rw [List.filterMap_cons]
      cases drawOf w ms re i v l <;> rfl
    rw [edgesOf_cons, List.forall_mem_cons, hf, Binary]
    by_cases hk : (w.lcls l).kind = .nary
    · simp [hk]
    · rw [if_neg hk]
      match hE : w.ends l with
      | [] => simp
      | [_] => simp
      | a :: b :: rest => simp [ih, hk]

/-- all edges asked for, before `add_edge` drops the undirected repeats -/
def draws (w : World) (ms : List VId) (re : Option (LId → String)) (idx : List (Nat × VId)) :
    List PEdge :=
  idx.flatMap fun p => (w.links p.2).filterMap (drawOf w ms re p.1 p.2)

theorem allEdges_eq_ok {idx : List (Nat × VId)} {es es' : List PEdge} :
    allEdges w ms re idx es = .ok es' ↔
      (∀ p ∈ idx, ∀ l ∈ w.links p.2, Binary w l) ∧ es' = (draws w ms re idx).foldl addE es := by
  induction idx generalizing es with
  | nil => simp [allEdges, draws, eq_comm]
  | cons p idx ih =>
    rw [allEdges, List.forall_mem_cons, draws, List.flatMap_cons, List.foldl_append]
    cases h1 : edgesOf w ms re p.1 p.2 (w.links p.2) es with
    | error e =>
      have hb : ¬ ∀ l ∈ w.links p.2, Binary w l := fun h => by
        rw [edgesOf_eq_ok.mpr ⟨h, rfl⟩] at h1
        cases h1
      simp [hb]
    | ok es1 =>
      obtain ⟨hb, rfl⟩ := edgesOf_eq_ok.mp h1
      show allEdges w ms re idx _ = .ok es' ↔ _
      rw [ih, draws]
      exact ⟨fun ⟨h, e⟩ => ⟨⟨hb, h⟩, e⟩, fun ⟨h, e⟩ => ⟨h.2, e⟩⟩

theorem mem_zip_range (ms : List VId) (k : Nat) (v : VId) :
    (k, v) ∈ (List.range ms.length).zip ms ↔ ms[k]? = some v := by
  simp only [List.mem_iff_getElem?, List.getElem?_zip_eq_some]
  constructor
  · rintro ⟨i, hi, hv⟩
    obtain ⟨_, rfl⟩ := List.getElem?_eq_some_iff.mp hi
    simpa using hv
  · exact fun h => ⟨k, by simp [(List.getElem?_eq_some_iff.mp h).1], h⟩

theorem drawOf_eq_some {l : LId} {e : PEdge} :
    drawOf w ms re i v l = some e ↔ e.src = i ∧ ∃ b rest, w.ends l = some v :: some b :: rest ∧
      indexOf? ms b = some e.dst ∧ e.arrows = (w.lcls l).subDirected ∧ e.title = re.map (· l) := by
  unfold drawOf
  constructor
  · intro h
    split at h
    · next a b rest hE =>
      split at h
      · next ha =>
        obtain ⟨j, hj, rfl⟩ := Option.map_eq_some_iff.mp h
        exact ⟨rfl, b, rest, ha ▸ hE, hj, rfl, rfl⟩
      · cases h
    · cases h
  · rintro ⟨rfl, b, rest, hE, hj, ha, ht⟩
    rw [hE]
    simp only [if_pos, hj, Option.map_some, ← ha, ← ht]

theorem sum_range_ite (n i c : Nat) :
    ((List.range n).map fun k => if k = i then c else 0).sum = if i < n then c else 0 := by
  induction n with
  | zero => rfl
  | succ n ih =>
    rw [List.range_succ, List.map_append, List.sum_append, ih, List.map_singleton,
      List.sum_singleton]
    by_cases h : n = i
    · subst h
      simp
    · have : i < n + 1 ↔ i < n := by omega
      simp [h, this]

/-- some edge joins the pair {i, j} -/
def Joined (es : List PEdge) (i j : Nat) : Prop :=
  ∃ e ∈ es, (e.src = i ∧ e.dst = j) ∨ (e.src = j ∧ e.dst = i)

theorem addE_cases (es : List PEdge) (e : PEdge) :
    (addE es e = es ∧ e.arrows = false ∧ Joined es e.src e.dst) ∨ addE es e = es ++ [e] := by
  unfold addE addEdge
  split
  · next h =>
    simp only [Bool.and_eq_true, Bool.not_eq_true', List.any_eq_true, Bool.or_eq_true,
      beq_iff_eq] at h
    obtain ⟨ha, x, hx, hh⟩ := h
    exact .inl ⟨rfl, ha, x, hx, by rcases hh with ⟨h1, h2⟩ | ⟨h1, h2⟩ <;> simp [h1, h2]⟩
  · exact .inr rfl

theorem foldl_addE (rs es : List PEdge) : ∃ ds, rs.foldl addE es = es ++ ds ∧ ds.Sublist rs ∧
    ds.filter (·.arrows) = rs.filter (·.arrows) ∧ ∀ r ∈ rs, Joined (es ++ ds) r.src r.dst := by
  induction rs generalizing es with
  | nil => exact ⟨[], by simp⟩
  | cons r rs ih =>
    rcases addE_cases es r with ⟨h, ha, x, hx, hj⟩ | h
    · obtain ⟨ds, h1, h2, h3, h4⟩ := ih es
      refine ⟨ds, by rw [List.foldl_cons, h, h1], h2.cons _, by simp [ha, h3], ?_⟩
      intro y hy
      rcases List.mem_cons.mp hy with rfl | hy
      · exact ⟨x, by simp [hx], hj⟩
      · exact h4 y hy
    · obtain ⟨ds, h1, h2, h3, h4⟩ := ih (es ++ [r])
      refine ⟨r :: ds, by rw [List.foldl_cons, h, h1]; simp, h2.cons_cons _,
        by simp [List.filter_cons, h3], ?_⟩
      intro y hy
      rcases List.mem_cons.mp hy with rfl | hy
      · exact ⟨y, by simp, .inl ⟨rfl, rfl⟩⟩
      · simpa using h4 y hy

theorem take_two_beq {α : Type} [BEq α] [LawfulBEq α] (xs : List α) (x y : α) :
    (xs.take 2 == [x, y]) = true ↔ ∃ rest, xs = x :: y :: rest := by
  rcases xs with _ | ⟨x', _ | ⟨y', t⟩⟩ <;> simp

/-- the left side is the shape `List.countP_filterMap` gives the count in `arrowed_draws` -/
theorem drawOf_arrowed (hn : ms.Nodup) {k j : Nat} {b : VId} {l : LId} (hj : ms[j]? = some b) :
    ((drawOf w ms re k v l).map fun e => e.arrows && e.src == i && e.dst == j).getD false = true ↔
      k = i ∧ ((w.lcls l).subDirected && (w.ends l).take 2 == [some v, some b]) = true := by
  rw [Bool.and_eq_true, take_two_beq]
  constructor
  · intro h
    cases hd : drawOf w ms re k v l with
    | none => simp [hd] at h
    | some e =>
      obtain ⟨rfl, b', rest, hE, hj', ha, -⟩ := drawOf_eq_some.mp hd
      simp only [hd, Option.map_some, Option.getD_some, Bool.and_eq_true, beq_iff_eq] at h
      obtain ⟨⟨h1, h2⟩, h3⟩ := h
      obtain rfl : b = b' := by simpa [h3, hj] using (indexOf?_some _ _ _ hj').2
      exact ⟨h2, ha ▸ h1, rest, hE⟩
  · rintro ⟨rfl, hd, rest, hE⟩
    have := (drawOf_eq_some (e := ⟨k, j, (w.lcls l).subDirected, re.map (· l)⟩)).mpr
      ⟨rfl, b, rest, hE, indexOf?_of_getElem? _ hn _ _ hj, rfl, rfl⟩
    simp [this, hd]

theorem arrowed_draws (hn : ms.Nodup) {j : Nat} {a b : VId} (hi : ms[i]? = some a)
    (hj : ms[j]? = some b) :
    (draws w ms re ((List.range ms.length).zip ms)).countP
        (fun e => e.arrows && e.src == i && e.dst == j) =
      (w.links a).countP fun l => (w.lcls l).subDirected && (w.ends l).take 2 == [some a, some b] := by
  rw [draws, List.countP_flatMap]
  have hpt : ∀ p ∈ (List.range ms.length).zip ms,
      (List.countP (fun e => e.arrows && e.src == i && e.dst == j) ∘
        fun p => (w.links p.2).filterMap (drawOf w ms re p.1 p.2)) p =
      ((fun k => if k = i then (w.links a).countP fun l => (w.lcls l).subDirected &&
        (w.ends l).take 2 == [some a, some b] else 0) ∘ Prod.fst) p := by
    rintro ⟨k, v⟩ hp
    rw [mem_zip_range] at hp
    simp only [Function.comp, List.countP_filterMap]
    split
    · next hk =>
      subst hk
      obtain rfl : v = a := by simpa [hi] using hp.symm
      exact List.countP_congr fun l _ => (drawOf_arrowed hn hj).trans
        (and_iff_right rfl)
    · next hk =>
      exact List.countP_eq_zero.2 fun l _ h => hk ((drawOf_arrowed hn hj).mp h).1
  rw [List.map_congr_left hpt, ← List.map_map, List.map_fst_zip (by simp), sum_range_ite,
    if_pos (List.getElem?_eq_some_iff.mp hi).1]

theorem pyvisNet_ok (w : World) (u : VId) (rv : VId → String) (re : Option (LId → String))
    (nodes : List (Nat × String)) (edges : List PEdge) (h : pyvisNet w u rv re = .ok (nodes, edges)) :
    let rs := draws w (w.members u) re ((List.range (w.members u).length).zip (w.members u))
    nodes = ((List.range (w.members u).length).zip (w.members u)).map (fun p => (p.1, rv p.2)) ∧
    edges.Sublist rs ∧ edges.filter (·.arrows) = rs.filter (·.arrows) ∧
    ∀ r ∈ rs, Joined edges r.src r.dst := by
  simp only [pyvisNet] at h
  split at h
  · cases h
  · next es hes =>
    simp only [Except.ok.injEq, Prod.mk.injEq] at h
    obtain ⟨ds, h1, h2⟩ := foldl_addE (draws w (w.members u) re _) []
    rw [← (allEdges_eq_ok.mp hes).2, h.2, List.nil_append] at h1
    exact ⟨h.1.symm, h1 ▸ h2⟩

theorem pyvisNet_eq_ok {u : VId} {rv : VId → String}
    (h : ∀ v ∈ w.members u, ∀ l ∈ w.links v, Binary w l) :
    pyvisNet w u rv re =
      .ok (((List.range (w.members u).length).zip (w.members u)).map (fun p => (p.1, rv p.2)),
        (draws w (w.members u) re ((List.range (w.members u).length).zip (w.members u))).foldl
          addE []) := by
  simp only [pyvisNet, allEdges_eq_ok.mpr ⟨fun p hp => h p.2 (List.of_mem_zip hp).2, rfl⟩]

end R
end EG
