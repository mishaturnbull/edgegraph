import EG.RenderTableSpec
import EG.Proofs.RenderLemmas
/-
  EG.Proofs.RenderWorld — an evaluator for the PyVis table (C15) with its correctness proof: on the
  row world `Tab.renderWorld ls` every link is binary, so `R.pyvisNet` does not raise and draws
  `add_edge` folded over the edges asked for, which read off `ls` itself are `pvDraw ls`.  The table
  is evaluated through `pvDraw` (`modelPv_eq`, for every row): `renderWorld` recomputes `links`,
  `ends`, `lcls` from `ls` by index at every use, which doubles the kernel's work.
-/
namespace EG
namespace Tab
open R

/-- the edge a link `x` = (class, v1, v2) asks for when the loop is at member number `i` = `v` -/
def asked (ms : List VId) (i : Nat) (v : VId) (x : LCls × Nat × Nat) : Option PEdge :=
  if x.2.1 = v then (indexOf? ms x.2.2).map fun j => ⟨i, j, x.1.subDirected, none⟩ else none

/-- the edges `make_pyvis_net` draws on `renderWorld ls`: members 0 and 1 are their own numbers -/
def pvDraw (ls : List (LCls × Nat × Nat)) : List PEdge :=
  ([(0, 0), (1, 1)].flatMap fun p => ls.filterMap (asked [0, 1] p.1 p.2)).foldl addE []

variable (ls : List (LCls × Nat × Nat)) (c0 : VCls)

theorem renderWorld_binary (h : ∀ x ∈ ls, x.1.kind ≠ .nary) (v : VId) (l : LId)
    (hl : l ∈ (renderWorld ls c0).links v) : Binary (renderWorld ls c0) l := by
  have hlt : l < ls.length := by
    simp only [renderWorld, List.mem_filter, List.mem_range] at hl
    exact hl.1
  have hx : ls[l]? = some ls[l] := List.getElem?_eq_getElem hlt
  exact ⟨by simpa [renderWorld, List.getD, hx] using h _ (List.getElem_mem hlt),
    some ls[l].2.1, some ls[l].2.2, [], by simp [renderWorld, hx]⟩

theorem drawOf_renderWorld (ms : List VId) (i : Nat) (v : VId) (l : LId) :
    drawOf (renderWorld ls c0) ms none i v l = (ls[l]?).bind (asked ms i v) := by
  cases hx : ls[l]? <;> simp [drawOf, renderWorld, asked, hx, List.getD]

theorem map_getElem?_range {α : Type} (ls : List α) :
    (List.range ls.length).map (ls[·]?) = ls.map some := by
  apply List.ext_getElem?
  intro i
  by_cases h : i < ls.length <;> simp [h]

/-- `links v` lists the indices of the links touching `v`; no other link asks for anything -/
theorem filterMap_drawOf_renderWorld (ms : List VId) (i : Nat) (v : VId) :
    ((renderWorld ls c0).links v).filterMap (drawOf (renderWorld ls c0) ms none i v) =
      ls.filterMap (asked ms i v) := by
  rw [funext (drawOf_renderWorld ls c0 ms i v)]
  show List.filterMap _ (List.filter _ (List.range ls.length)) = _
  rw [List.filterMap_filter]
  calc _ = (List.range ls.length).filterMap ((·.bind (asked ms i v)) ∘ (ls[·]?)) := by
        refine congrArg (List.filterMap · _) (funext fun l => ?_)
        cases hx : ls[l]? with
        | none => simp [hx]
        | some x =>
          obtain ⟨c, a, b⟩ := x
          by_cases ha : a = v
          · simp [hx, ha]
          · simp [hx, asked, ha]
    _ = _ := by
        rw [← List.filterMap_map, map_getElem?_range, List.filterMap_map]
        rfl

theorem pyvisNet_renderWorld (rv : VId → String) (h : ∀ x ∈ ls, x.1.kind ≠ .nary) :
    pyvisNet (renderWorld ls c0) 3 rv none = .ok ([(0, rv 0), (1, rv 1)], pvDraw ls) := by
  rw [pyvisNet_eq_ok fun v _ => renderWorld_binary ls c0 h v]
  have hm : (renderWorld ls c0).members 3 = [0, 1] := rfl
  simp only [hm, draws, filterMap_drawOf_renderWorld]
  rfl

theorem lclsOf_kind (c : Nat) : (lclsOf c).kind ≠ .nary := by
  unfold lclsOf
  split <;> decide

theorem modelPv_eq (r : PvRow) :
    modelPv r = .edges ((pvDraw [(lclsOf r.c1, r.a1, r.b1), (lclsOf r.c2, r.a2, r.b2)]).map
      fun e => (e.src, e.dst, e.arrows)) := by
  rw [modelPv, pyvisNet_renderWorld _ _ _ (by simp [lclsOf_kind])]

end Tab
end EG
