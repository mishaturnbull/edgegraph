import EG.Proofs.Sim
import EG.Proofs.StepBasic
/-
  EG.Proofs.Rules — the frames of the mirror model: `M.*_frame` / `M.prims_framePres`, for any
  fuel and any world (each primitive is a composition of writes to its own columns and of calls
  of its partner, and frames compose).  With `Sim`: no public call changes the `rules` of an
  allocated law set (C19).
-/
namespace EG

namespace M

theorem add_frame : ∀ f,
    (∀ w v l w', addToLink f w v l = some w' → AssocFrame w w') ∧
    (∀ w l x w', addVertex f w l x = some w' → AssocFrame w w') := by
  intro f
  induction f with
  | zero => constructor <;> intros <;> simp_all [addToLink, addVertex]
  | succ f ih =>
    obtain ⟨ih1, ih2⟩ := ih
    constructor
    · intro w v l w' h
      simp only [addToLink] at h
      split at h
      · cases h; exact .write w _ _ _
      · split at h
        · cases h; exact .write w _ _ _
        · split at h
          · cases h
          · rename_i w1 hw1
            cases h
            exact ((AssocFrame.write w _ _ _).trans (ih2 _ _ _ _ hw1)).trans (.write _ _ _ _)
    · intro w l x w' h
      have f0 : AssocFrame w ((w.setEnds l (w.ends l ++ [x])).invalidateEnds l) := .write w _ _ _
      simp only [addVertex] at h
      split at h
      · cases h; exact f0
      · split at h
        · cases h; exact f0
        · exact f0.trans (ih1 _ _ _ _ h)

theorem remove_frame : ∀ f,
    (∀ w v l w', removeFromLink f w v l = some w' → AssocFrame w w') ∧
    (∀ w l x w', unlinkFrom f w l x = some w' → AssocFrame w w') := by
  intro f
  induction f with
  | zero => constructor <;> intros <;> simp_all [removeFromLink, unlinkFrom]
  | succ f ih =>
    obtain ⟨ih1, ih2⟩ := ih
    constructor
    · intro w v l w' h
      simp only [removeFromLink] at h
      split at h
      · split at h
        · cases h
        · rename_i w1 hw1; cases h
          exact ((AssocFrame.write w _ _ _).trans (ih2 _ _ _ _ hw1)).trans (.write _ _ _ _)
      · cases h; exact .write w _ _ _
    · intro w l x w' h
      simp only [unlinkFrom] at h
      split at h
      · split at h
        · cases h; exact .write w _ _ _
        · exact (AssocFrame.write w _ _ _).trans (ih1 _ _ _ _ h)
      · cases h; exact .refl w

theorem replaceEnd_frame (f : Nat) (w : World) (l : LId) (i : Nat) (x : Option VId) (w' : World)
    (h : replaceEnd f w l i x = some w') : AssocFrame w w' := by
  have f0 : AssocFrame w (rawSetEnd w l i x) :=
    ((AssocFrame.write w _ _ _ : AssocFrame w (w.invalidateEnds l)).trans
      (.write _ _ _ _ : AssocFrame _ (World.setEnds _ l _))).trans (.write _ _ _ _)
  simp only [replaceEnd] at h
  generalize rawSetEnd w l i x = w0 at h f0
  split at h
  · cases h
  · rename_i w1 h1
    have f1 : AssocFrame w0 w1 := by
      split at h1
      · cases h1; exact .refl _
      · split at h1
        · cases h1; exact .refl _
        · exact (remove_frame f).1 _ _ _ _ h1
    refine f0.trans (f1.trans ?_)
    split at h
    · cases h; exact .refl _
    · split at h
      · cases h; exact .refl _
      · exact (add_frame f).1 _ _ _ _ h

theorem uniAdd_frame : ∀ f,
    (∀ w v u w', addToUniverse f w v u = some w' → UniFrame w w') ∧
    (∀ w u v w', uniAddVertex f w u v = some w' → UniFrame w w') := by
  intro f
  induction f with
  | zero => constructor <;> intros <;> simp_all [addToUniverse, uniAddVertex]
  | succ f ih =>
    obtain ⟨ih1, ih2⟩ := ih
    constructor
    · intro w v u w' h
      simp only [addToUniverse] at h
      have f0 : UniFrame w (if u ∈ w.unis v then w else w.setUnis v (w.unis v ++ [u])) := by
        split
        · exact .refl w
        · exact .write w _ _
      generalize (if u ∈ w.unis v then w else w.setUnis v (w.unis v ++ [u])) = w0 at h f0
      split at h
      · cases h; exact f0
      · exact f0.trans (ih2 _ _ _ _ h)
    · intro w u v w' h
      simp only [uniAddVertex] at h
      split at h
      · cases h; exact .refl w
      · split at h
        · cases h; exact .write w _ _
        · exact (UniFrame.write w _ _).trans (ih1 _ _ _ _ h)

theorem uniRemove_frame : ∀ f,
    (∀ w v u w', removeFromUniverse f w v u = some (.ok w') → UniFrame w w') ∧
    (∀ w u v w', uniRemoveVertex f w u v = some (.ok w') → UniFrame w w') := by
  intro f
  induction f with
  | zero => constructor <;> intros <;> simp_all [removeFromUniverse, uniRemoveVertex]
  | succ f ih =>
    obtain ⟨ih1, ih2⟩ := ih
    constructor
    · intro w v u w' h
      simp only [removeFromUniverse] at h
      split at h
      · split at h
        · exact (UniFrame.write w _ _).trans (ih2 _ _ _ _ h)
        · cases h; exact .write w _ _
      · cases h
    · intro w u v w' h
      simp only [uniRemoveVertex] at h
      split at h
      · split at h
        · exact (UniFrame.write w _ _).trans (ih1 _ _ _ _ h)
        · cases h; exact .write w _ _
      · cases h


theorem laws_frame : ∀ f,
    (∀ w L x w', setAppliesTo f w L x = some w' → LawFrame w w') ∧
    (∀ w u x w', setLaws f w u x = some w' → LawFrame w w') := by
  intro f
  induction f with
  | zero => constructor <;> intros <;> simp_all [setAppliesTo, setLaws]
  | succ f ih =>
    obtain ⟨ih1, ih2⟩ := ih
    constructor
    · intro w L x w' h
      simp only [setAppliesTo] at h
      split at h
      · cases h; exact .refl w
      · have f0 : LawFrame w (w.setAppliesTo L x) := .write w _ _
        generalize w.setAppliesTo L x = w0 at h f0
        split at h
        · cases h
        · rename_i w1 h1
          have f1 : LawFrame w0 w1 := by
            split at h1
            · cases h1; exact .refl _
            · split at h1
              · exact ih2 _ _ _ _ h1
              · cases h1; exact .refl _
          refine f0.trans (f1.trans ?_)
          split at h
          · cases h; exact .refl _
          · exact ih2 _ _ _ _ h
    · intro w u x w' h
      simp only [setLaws] at h
      split at h
      · cases h; exact .refl w
      · have f0 : LawFrame w (w.setLaws u x) := .write w _ _
        generalize w.setLaws u x = w0 at h f0
        split at h
        · cases h
        · rename_i w1 h1
          have f1 : LawFrame w0 w1 := by
            split at h1
            · cases h1; exact .refl _
            · split at h1
              · exact ih1 _ _ _ _ h1
              · cases h1; exact .refl _
          refine f0.trans (f1.trans ?_)
          split at h
          · cases h; exact .refl _
          · exact ih1 _ _ _ _ h

end M

theorem M.prims_framePres : FramePres M.prims where
  addToLink := (M.add_frame _).1
  addVertex := (M.add_frame _).2
  removeFromLink := (M.remove_frame _).1
  unlinkFrom := (M.remove_frame _).2
  replaceEnd := M.replaceEnd_frame _
  uniAddVertex := (M.uniAdd_frame _).2
  addToUniverse := (M.uniAdd_frame _).1
  uniRemoveVertex := (M.uniRemove_frame _).2
  removeFromUniverse := (M.uniRemove_frame _).1
  setLaws := (M.laws_frame _).2
  setAppliesTo := (M.laws_frame _).1

/-- a record of primitives none of which writes the `rules` column -/
structure RulesPres (P : Prims) : Prop where
  addToLink : ∀ w v l w', P.addToLink w v l = some w' → w'.rules = w.rules
  addVertex : ∀ w l x w', P.addVertex w l x = some w' → w'.rules = w.rules
  removeFromLink : ∀ w v l w', P.removeFromLink w v l = some w' → w'.rules = w.rules
  unlinkFrom : ∀ w l x w', P.unlinkFrom w l x = some w' → w'.rules = w.rules
  replaceEnd : ∀ w l i x w', P.replaceEnd w l i x = some w' → w'.rules = w.rules
  uniAddVertex : ∀ w u v w', P.uniAddVertex w u v = some w' → w'.rules = w.rules
  addToUniverse : ∀ w v u w', P.addToUniverse w v u = some w' → w'.rules = w.rules
  uniRemoveVertex : ∀ w u v w', P.uniRemoveVertex w u v = some (.ok w') → w'.rules = w.rules
  removeFromUniverse : ∀ w v u w', P.removeFromUniverse w v u = some (.ok w') → w'.rules = w.rules
  setLaws : ∀ w u x w', P.setLaws w u x = some w' → w'.rules = w.rules
  setAppliesTo : ∀ w L x w', P.setAppliesTo w L x = some w' → w'.rules = w.rules

theorem M.prims_rulesPres : RulesPres M.prims :=
  have h := M.prims_framePres
  { addToLink := fun _ _ _ _ e => (h.addToLink _ _ _ _ e).rules
    addVertex := fun _ _ _ _ e => (h.addVertex _ _ _ _ e).rules
    removeFromLink := fun _ _ _ _ e => (h.removeFromLink _ _ _ _ e).rules
    unlinkFrom := fun _ _ _ _ e => (h.unlinkFrom _ _ _ _ e).rules
    replaceEnd := fun _ _ _ _ _ e => (h.replaceEnd _ _ _ _ _ e).rules
    uniAddVertex := fun _ _ _ _ e => (h.uniAddVertex _ _ _ _ e).rules
    addToUniverse := fun _ _ _ _ e => (h.addToUniverse _ _ _ _ e).rules
    uniRemoveVertex := fun _ _ _ _ e => (h.uniRemoveVertex _ _ _ _ e).rules
    removeFromUniverse := fun _ _ _ _ e => (h.removeFromUniverse _ _ _ _ e).rules
    setLaws := fun _ _ _ _ e => (h.setLaws _ _ _ _ e).rules
    setAppliesTo := fun _ _ _ _ e => (h.setAppliesTo _ _ _ _ e).rules }

/-- the invariant behind C19_rules_immutable, relative to the world `w₀` before the call -/
def RulesOf (w₀ w : World) : Prop := w₀.nW ≤ w.nW ∧ ∀ K, K < w₀.nW → w.rules K = w₀.rules K

theorem RulesOf.step {w₀ w w' : World} (h : RulesOf w₀ w) (hW : w'.nW = w.nW)
    (hr : w'.rules = w.rules) : RulesOf w₀ w' :=
  ⟨hW ▸ h.1, fun K hK => hr ▸ h.2 K hK⟩

/-- no frame lets `nW` or `rules` change, and `allocLaws` writes `rules` at the new id only -/
theorem sim_rules {P : Prims} (hP : FramePres P) (w₀ : World) : Sim P P (RulesOf w₀) :=
  .ofFrames hP (fun f h => h.step f.nW f.rules) (fun f h => h.step f.nW f.rules)
    (fun f h => h.step f.nW f.rules)
    (fun _ _ h => h.step rfl rfl)
    (fun w r h => ⟨Nat.le_succ_of_le h.1, fun K hK => by
      have : K ≠ w.nW := Nat.ne_of_lt (Nat.lt_of_lt_of_le hK h.1)
      simp only [M.allocLaws, upd, this, if_false]
      exact h.2 K hK⟩)
    (fun _ _ _ _ h => h.step rfl rfl) (fun _ _ h => h.step rfl rfl)

theorem C.step_rules {P : Prims} (hP : FramePres P) (F : Nat → LId → Option VId → Bool)
    (w : World) (op : Op) (K : WId) (hK : K < w.nW) : (C.step P F w op).1.rules K = w.rules K :=
  (C.step_sim hP (M.neighbors_keeps fun _ _ h => h.step rfl rfl) (sim_rules hP w) w op
    ⟨Nat.le_refl _, fun _ _ => rfl⟩).2.2 K hK

end EG
