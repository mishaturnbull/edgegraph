import EG.Proofs.TravIter
/-
  EG.Proofs.Search — C08: each search loop is its traversal loop with an early exit at the
  first element satisfying the predicate, stated against the closed forms of the traversals.
-/
namespace EG
namespace T
namespace SearchAux

variable (nb : Nat → List Nat) (inU : Nat → Bool) (p : Nat → Bool)

variable {p} in
theorem find_none_of {vis seg : List Nat} (hp : ∀ y ∈ vis, p y = false) (h : seg.find? p = none) :
    ∀ y ∈ vis ++ seg, p y = false := by
  intro y hy
  rcases List.mem_append.1 hy with hy | hy
  · exact hp y hy
  · simpa using List.find?_eq_none.1 h y hy

theorem bfsScan_eq (l : List Nat) : ∀ vis q, (∀ y ∈ vis, p y = false) →
    bfsScan inU p vis q l =
      match (bftChildren inU vis l).find? p with
      | some x => .inl x
      | none => .inr (vis ++ bftChildren inU vis l, q ++ bftChildren inU vis l) := by
  induction l with
  | nil => intros; simp [bfsScan, bftChildren]
  | cons v vs ih =>
    intro vis q h
    by_cases h1 : inU v = true
    · by_cases hp : p v = true
      · have h2 : v ∉ vis := fun hm => by simp [h v hm] at hp
        simp [bfsScan, bftChildren, h1, hp, h2]
      · by_cases h2 : v ∈ vis
        · simpa [bfsScan, bftChildren, h1, hp, h2] using ih vis q h
        · have := ih (vis ++ [v]) (q ++ [v]) (find_none_of h (by simpa using hp))
          simpa [bfsScan, bftChildren, h1, hp, h2] using this
    · simpa [bfsScan, bftChildren, h1] using ih vis q h

theorem bfsLoop_eq_find (f : Nat) : ∀ vis q, (∀ y ∈ vis, p y = false) →
    bfsLoop nb inU p f vis q = (bftLoop nb inU (fun _ => true) f vis q []).find? p := by
  induction f with
  | zero => intros; simp [bfsLoop, bftLoop]
  | succ f ih =>
    intro vis q h
    cases q with
    | nil => simp [bfsLoop, bftLoop]
    | cons u q =>
      rw [bfsLoop, bfsScan_eq inU p _ _ _ h, bftLoop_cons, bftLoop_out, List.filter_true,
        List.nil_append, List.find?_append]
      cases hf : (bftChildren inU vis (nb u)).find? p with
      | some x => rfl
      | none =>
        exact ih _ _ (find_none_of h hf)

theorem bfs_eq_find (f s : Nat) :
    bfs nb inU p f s = (bft nb inU (fun _ => true) f s).find? p := by
  simp only [bfs, bft, if_true]
  rw [bftLoop_out]
  by_cases hp : p s = true
  · simp [hp]
  · simp [hp, bfsLoop_eq_find nb inU p f [s] [s] (by simpa using hp)]

theorem dfsIterLoop_eq_find (f : Nat) : ∀ st disc,
    dfsIterLoop nb inU p f st disc =
      (dftIterLoop nb inU (fun _ => true) f st disc []).find? p := by
  induction f with
  | zero => intros; simp [dfsIterLoop, dftIterLoop]
  | succ f ih =>
    intro st disc
    cases st with
    | nil => simp [dfsIterLoop, dftIterLoop]
    | cons v st =>
      rcases skip_or_push inU v disc with c | ⟨h1, h2⟩
      · rw [dftIterLoop_skip c, ← ih]
        rcases c with c | c <;> simp [dfsIterLoop, c]
      · rw [dftIterLoop_push h1 h2, dftIterLoop_out, List.find?_append, ← ih]
        by_cases hp : p v = true <;> simp [dfsIterLoop, h1, h2, hp]

theorem dfsIterative_eq_find (f s : Nat) :
    dfsIterative nb inU p f s = (dftIterative nb inU (fun _ => true) f s).find? p :=
  dfsIterLoop_eq_find nb inU p f [s] []

/-- what the loop body does with an unvisited neighbour in the universe, and what
    `dfsRecursive` does with the start: test it, then call -/
def dfsCall (f : Nat) (vis : List Nat) (v : Nat) : List Nat × Option Nat :=
  if p v then (vis, some v) else dfsRec nb inU p f vis v

/-- the fold step of `dfsRec` -/
def stepS (f : Nat) : List Nat × Option Nat → Nat → List Nat × Option Nat :=
  fun s w =>
    match s.2 with
    | some _ => s
    | none => if !inU w then s else if w ∈ s.1 then s else dfsCall nb inU p f s.1 w

theorem dfsRec_succ (f : Nat) (vis : List Nat) (v : Nat) :
    dfsRec nb inU p (f+1) vis v = (nb v).foldl (stepS nb inU p f) (vis ++ [v], none) := rfl

theorem foldS_some (f : Nat) (l : List Nat) (vis : List Nat) (x : Nat) :
    l.foldl (stepS nb inU p f) (vis, some x) = (vis, some x) := by
  induction l with
  | nil => rfl
  | cons w l ih => exact ih

/-- visited list: no duplicates, all ids below `n` — the same as `Good n vis`, which the proofs use -/
def VInv (n : Nat) (vis : List Nat) : Prop := vis.Nodup ∧ ∀ y ∈ vis, y < n

theorem VInv.length_le {n : Nat} {l : List Nat} (h : VInv n l) : l.length ≤ n :=
  Good.length_le h

/-- a search call answers the first match of the segment the traversal call lists, and where
    there is none it has visited the same vertices -/
def FindSpec (vis : List Nat) (r : List Nat × Option Nat) (seg : List Nat) : Prop :=
  r.2 = seg.find? p ∧ (seg.find? p = none → r.1 = vis ++ seg)

variable {nb inU p}

/-- (the recursive search tests a vertex one call level before the traversal lists it, so the
    two are only comparable when the fuel suffices) -/
theorem dfsCall_find {n : Nat} (hb : Bounded nb n) : ∀ f vis v, Good n vis → v < n → v ∉ vis →
    n ≤ vis.length + f → ∀ seg, dseg nb inU f vis v = seg → (∀ y ∈ vis, p y = false) →
    FindSpec p vis (dfsCall nb inU p f vis v) seg :=
  dseg_induct hb
    (F := fun f vis ws seg => (∀ y ∈ vis, p y = false) →
      FindSpec p vis (ws.foldl (stepS nb inU p f) (vis, none)) seg)
    (fun f vis v seg _ _ _ hF hp => by
      rw [dfsCall]
      by_cases hpv : p v = true
      · simp [FindSpec, hpv]
      · have := hF (find_none_of hp (by simpa using hpv))
        rw [if_neg hpv, dfsRec_succ]
        simpa [FindSpec, hpv, List.append_assoc] using this)
    (fun _ _ _ => by simp [FindSpec])
    (fun f vis w ws seg c ih hp => by
      rw [List.foldl_cons, show stepS nb inU p f (vis, none) w = (vis, none) by
        rcases c with c | c <;> simp [stepS, c]]
      exact ih hp)
    (fun f vis w ws a b c _ hC hF hp => by
      obtain ⟨r1, r2⟩ := hC hp
      rw [List.foldl_cons, show stepS nb inU p f (vis, none) w = dfsCall nb inU p f vis w by
        simp [stepS, c.1, c.2]]
      cases hfind : a.find? p with
      | some x =>
        rw [show dfsCall nb inU p f vis w = (_, some x) from Prod.ext rfl (r1.trans hfind),
          foldS_some]
        simp [FindSpec, List.find?_append, hfind]
      | none =>
        rw [show dfsCall nb inU p f vis w = (vis ++ a, none)
          from Prod.ext (r2 hfind) (r1.trans hfind)]
        simpa [FindSpec, List.find?_append, hfind, List.append_assoc]
          using hF (find_none_of hp hfind))

variable (nb inU p)

theorem dfsRecursive_eq_find (n : Nat) (hb : Bounded nb n) (s : Nat) (hs : s < n) (f : Nat)
    (hf : n + 1 ≤ f) :
    dfsRecursive nb inU p f s = (dftRecursive nb inU (fun _ => true) f s).find? p := by
  have := (dfsCall_find (p := p) (inU := inU) hb f [] s ⟨List.nodup_nil, by simp⟩ hs
    (by simp) (by simp; omega) _ rfl (by simp)).1
  simpa [dfsRecursive, dftRecursive, dftRec_eq, dfsCall, apply_ite Prod.snd] using this

end SearchAux
end T
end EG
