import EG.Proofs.Fold
import EG.Proofs.InvPrims
/-
  EG.Proofs.Sim — `C.step` is generic in the record of primitives; this is the one theorem about
  that.  If `P`, `Q` agree on the worlds satisfying `I`, `Q`'s results satisfy `I` again and `Q`
  respects the frames, then `C.step P` and `C.step Q` agree there and `I` is kept.
  `(M.prims, S.prims, Inv)` is C03 with C01 / C02 / C19; `P = Q` is an invariant.
-/
namespace EG

/-- the two results are the same, and the world in them (if any) satisfies `I`: for the three
    result types of the primitives and the compound operations -/
def Ok (I : World → Prop) (r₁ r₂ : Option World) : Prop :=
  r₁ = r₂ ∧ ∀ w', r₂ = some w' → I w'

def OkE (I : World → Prop) (r₁ r₂ : Option (Except Err World)) : Prop :=
  r₁ = r₂ ∧ ∀ w', r₂ = some (.ok w') → I w'

abbrev OkX {α : Type} (I : World → Prop) (r₁ r₂ : Except Err (World × α)) : Prop :=
  r₁ = r₂ ∧ ∀ w' a, r₂ = .ok (w', a) → I w'

theorem Ok.of_total {I : World → Prop} {w' : World} {r : Option World} (e : r = some w')
    (h : I w') : Ok I r (some w') :=
  ⟨e, fun _ e' => by cases e'; exact h⟩

theorem Ok.and {I J : World → Prop} {r₁ r₂ : Option World} (h : Ok I r₁ r₂)
    (hJ : ∀ w', r₂ = some w' → J w') : Ok (fun w => I w ∧ J w) r₁ r₂ :=
  ⟨h.1, fun w' e => ⟨h.2 w' e, hJ w' e⟩⟩

theorem OkE.and {I J : World → Prop} {r₁ r₂ : Option (Except Err World)} (h : OkE I r₁ r₂)
    (hJ : ∀ w', r₂ = some (.ok w') → J w') : OkE (fun w => I w ∧ J w) r₁ r₂ :=
  ⟨h.1, fun w' e => ⟨h.2 w' e, hJ w' e⟩⟩

/-- the calls outside the membership family (C02's frame needs them alone) -/
structure SimCore (P Q : Prims) (I : World → Prop) : Prop where
  addToLink : ∀ w v l, I w → v < w.nV → l < w.nL → Ok I (P.addToLink w v l) (Q.addToLink w v l)
  addVertex : ∀ w l x, I w → l < w.nL → w.ovOK x = true →
    Ok I (P.addVertex w l x) (Q.addVertex w l x)
  removeFromLink : ∀ w v l, I w → Ok I (P.removeFromLink w v l) (Q.removeFromLink w v l)
  unlinkFrom : ∀ w l x, I w → Ok I (P.unlinkFrom w l x) (Q.unlinkFrom w l x)
  replaceEnd : ∀ w l i x, I w → l < w.nL → i < (w.ends l).length → w.ovOK x = true →
    Ok I (P.replaceEnd w l i x) (Q.replaceEnd w l i x)
  setLaws : ∀ w u x, I w → u < w.nV → (∀ L, x = some L → L < w.nW) →
    Ok I (P.setLaws w u x) (Q.setLaws w u x)
  setAppliesTo : ∀ w L x, I w → L < w.nW → (∀ u, x = some u → u < w.nV) →
    Ok I (P.setAppliesTo w L x) (Q.setAppliesTo w L x)
  allocLink : ∀ w c, I w → I (M.allocLink w c).1
  allocLaws : ∀ w r, I w → I (M.allocLaws w r).1
  flag : ∀ w on, I w → I { w with caching := on }

structure Sim (P Q : Prims) (I : World → Prop) : Prop extends SimCore P Q I where
  uniAddVertex : ∀ w u v, I w → u < w.nV → v < w.nV →
    Ok I (P.uniAddVertex w u v) (Q.uniAddVertex w u v)
  addToUniverse : ∀ w v u, I w → u < w.nV → v < w.nV →
    Ok I (P.addToUniverse w v u) (Q.addToUniverse w v u)
  uniRemoveVertex : ∀ w u v, I w → OkE I (P.uniRemoveVertex w u v) (Q.uniRemoveVertex w u v)
  removeFromUniverse : ∀ w v u, I w →
    OkE I (P.removeFromUniverse w v u) (Q.removeFromUniverse w v u)
  /-- the one compound operation whose intermediate worlds violate the invariant (the new
      vertex lists its universes before they list it) -/
  newVertex : ∀ w c attrs ls us, I w → (∀ l ∈ ls, l < w.nL) → (∀ u ∈ us, u < w.nV) →
    OkX I (C.newVertex P w c attrs ls us) (C.newVertex Q w c attrs ls us)
  allocUni : ∀ w attrs, I w → I ((M.allocVertex w .UNI attrs []).1.invalidate w.nV)

theorem SimCore.ofFrames {P : Prims} (hP : FramePres P) {I : World → Prop}
    (hA : ∀ {w w'}, AssocFrame w w' → I w → I w') (hL : ∀ {w w'}, LawFrame w w' → I w → I w')
    (hl : ∀ w c, I w → I (M.allocLink w c).1) (hw : ∀ w r, I w → I (M.allocLaws w r).1)
    (hf : ∀ w on, I w → I { w with caching := on }) : SimCore P P I where
  addToLink w v l h _ _ := ⟨rfl, fun _ e => hA (hP.addToLink w v l _ e) h⟩
  addVertex w l x h _ _ := ⟨rfl, fun _ e => hA (hP.addVertex w l x _ e) h⟩
  removeFromLink w v l h := ⟨rfl, fun _ e => hA (hP.removeFromLink w v l _ e) h⟩
  unlinkFrom w l x h := ⟨rfl, fun _ e => hA (hP.unlinkFrom w l x _ e) h⟩
  replaceEnd w l i x h _ _ _ := ⟨rfl, fun _ e => hA (hP.replaceEnd w l i x _ e) h⟩
  setLaws w u x h _ _ := ⟨rfl, fun _ e => hL (hP.setLaws w u x _ e) h⟩
  setAppliesTo w L x h _ _ := ⟨rfl, fun _ e => hL (hP.setAppliesTo w L x _ e) h⟩
  allocLink := hl
  allocLaws := hw
  flag := hf

theorem Sim.ofFrames {P : Prims} (hP : FramePres P) {I : World → Prop}
    (hA : ∀ {w w'}, AssocFrame w w' → I w → I w') (hU : ∀ {w w'}, UniFrame w w' → I w → I w')
    (hL : ∀ {w w'}, LawFrame w w' → I w → I w')
    (hl : ∀ w c, I w → I (M.allocLink w c).1) (hw : ∀ w r, I w → I (M.allocLaws w r).1)
    (hv : ∀ w c attrs us, I w → I (M.allocVertex w c attrs us).1)
    (hf : ∀ w on, I w → I { w with caching := on }) : Sim P P I where
  toSimCore := .ofFrames hP hA hL hl hw hf
  uniAddVertex w u v h _ _ := ⟨rfl, fun _ e => hU (hP.uniAddVertex w u v _ e) h⟩
  addToUniverse w v u h _ _ := ⟨rfl, fun _ e => hU (hP.addToUniverse w v u _ e) h⟩
  uniRemoveVertex w u v h := ⟨rfl, fun _ e => hU (hP.uniRemoveVertex w u v _ e) h⟩
  removeFromUniverse w v u h := ⟨rfl, fun _ e => hU (hP.removeFromUniverse w v u _ e) h⟩
  newVertex w c attrs ls us h _ _ := ⟨rfl, fun w' v e => by
    simp only [C.newVertex, C.addToLinks_eq_fold, C.joinUniverses_eq_fold] at e
    split at e
    · cases e
    · rename_i w1 h1
      split at e
      · cases e
      · rename_i w2 h2
        cases e
        have e1 : I w1 := (foldOpt_sim _ _ I _
          (fun a x ha _ => ⟨rfl, fun b hb => hA (hP.addToLink a _ x b hb) ha⟩) _ (hv w c attrs us h)).2 _ h1
        exact hA (.write _ _ _ _) ((foldOpt_sim _ _ I _
          (fun a x ha _ => ⟨rfl, fun b hb => hU (hP.uniAddVertex a x _ b hb) ha⟩) _ e1).2 _ h2)⟩
  allocUni w attrs h := hA (.write _ _ _ _) (hv w .UNI attrs [] h)

/-- for the loops: the arguments allocated in `w₀` are allocated in `w` -/
def SameIds (w₀ w : World) : Prop := w.nV = w₀.nV ∧ w.nL = w₀.nL

theorem SameIds.refl (w : World) : SameIds w w := ⟨rfl, rfl⟩

theorem SameIds.trans {a b c : World} (h1 : SameIds a b) (h2 : SameIds b c) : SameIds a c :=
  ⟨h2.1.trans h1.1, h2.2.trans h1.2⟩

theorem AssocFrame.sameIds {w w' : World} (f : AssocFrame w w') : SameIds w w' := ⟨f.nV, f.nL⟩
theorem UniFrame.sameIds {w w' : World} (f : UniFrame w w') : SameIds w w' := ⟨f.nV, f.nL⟩

theorem SameIds.ovOK {w₀ w : World} (h : SameIds w₀ w) {x : Option VId} (hx : w₀.ovOK x = true) :
    w.ovOK x = true := by
  cases x with
  | none => rfl
  | some v => exact decide_eq_true (h.1 ▸ vOK_lt hx)

theorem foldOpt_ok {α : Type} (f g : World → α → Option World) (I : World → Prop) (xs : List α)
    (w₀ : World) (h0 : I w₀)
    (h : ∀ w x, I w → SameIds w₀ w → x ∈ xs → Ok I (f w x) (g w x))
    (hg : ∀ w x w', g w x = some w' → SameIds w w') :
    Ok I (foldOpt f w₀ xs) (foldOpt g w₀ xs) := by
  have hs := foldOpt_sim f g (fun w => I w ∧ SameIds w₀ w) xs (fun w x hw hx =>
    ⟨(h w x hw.1 hw.2 hx).1, fun w' e => ⟨(h w x hw.1 hw.2 hx).2 w' e, hw.2.trans (hg w x w' e)⟩⟩)
    w₀ ⟨h0, .refl w₀⟩
  exact ⟨hs.1, fun w' e => (hs.2 w' e).1⟩

namespace C

section
variable {P Q : Prims} {I : World → Prop} (hC : SimCore P Q I) (hQ : FramePres Q)
include hC hQ

theorem addVertices_ok (w : World) (l : LId) (xs : List (Option VId)) (h : I w) (hl : l < w.nL)
    (hxs : ∀ x ∈ xs, w.ovOK x = true) : Ok I (addVertices P w l xs) (addVertices Q w l xs) := by
  rw [addVertices_eq_fold, addVertices_eq_fold]
  exact foldOpt_ok _ _ I xs w h
    (fun w' x hw hs hx => hC.addVertex w' l x hw (hs.2 ▸ hl) (hs.ovOK (hxs x hx)))
    (fun w' x _ e => (hQ.addVertex w' l x _ e).sameIds)

theorem unlinkEach_ok (w : World) (a b : VId) (ls : List LId) (h : I w) :
    Ok I (unlinkEach P w a b ls) (unlinkEach Q w a b ls) := by
  rw [unlinkEach_eq_fold, unlinkEach_eq_fold]
  refine foldOpt_ok _ _ I ls w h (fun w' l hw _ _ => ?_) (fun w' l w'' e => ?_)
  · simp only [unlinkBoth]
    obtain ⟨e1, h1⟩ := hC.unlinkFrom w' l (some a) hw
    rw [e1]
    cases h2 : Q.unlinkFrom w' l (some a) with
    | none => exact ⟨rfl, fun _ e => by cases e⟩
    | some w1 => exact hC.unlinkFrom w1 l (some b) (h1 w1 h2)
  · simp only [unlinkBoth] at e
    cases h2 : Q.unlinkFrom w' l (some a) with
    | none => rw [h2] at e; cases e
    | some w1 =>
      rw [h2] at e
      exact (hQ.unlinkFrom w' l _ w1 h2).sameIds.trans (hQ.unlinkFrom w1 l _ w'' e).sameIds

omit hQ in
theorem setEnd_ok (w : World) (l : LId) (i : Nat) (x : Option VId) (h : I w) (hl : l < w.nL)
    (hi : i < 2) (hx : w.ovOK x = true) :
    setEnd P w l i x = setEnd Q w l i x ∧ ∀ w', setEnd Q w l i x = .ok w' → I w' := by
  simp only [setEnd]
  split
  · exact ⟨rfl, fun _ e => by cases e⟩
  · obtain ⟨e, hq⟩ := hC.replaceEnd w l i x h hl (by omega) hx
    rw [e]
    -- this tail recurs and cannot be a lemma: a `match` of ours does not unify with the auxiliary
    -- matcher of each definition
    refine ⟨rfl, fun w' e' => ?_⟩
    split at e'
    · cases e'
    · rename_i w1 h1
      cases e'
      exact hq _ h1

theorem newLink_ok (w : World) (c : LCls) (vs : List (Option VId)) (h : I w)
    (hvs : ∀ x ∈ vs, w.ovOK x = true) :
    OkX I (newLink P w c vs) (newLink Q w c vs) := by
  obtain ⟨e, hq⟩ := addVertices_ok hC hQ (M.allocLink w c).1 w.nL vs (hC.allocLink w c h)
    (Nat.lt_succ_self _) hvs
  simp only [newLink, M.allocLink] at e hq ⊢
  rw [e]
  refine ⟨rfl, fun w' l e' => ?_⟩
  split at e'
  · cases e'
  · rename_i w1 h1
    cases e'
    exact hq _ h1

theorem linkFromTo_ok (w : World) (a : VId) (c : LCls) (b : VId) (dd : Bool) (h : I w)
    (ha : w.vOK a = true) (hb : w.vOK b = true) :
    OkX I (linkFromTo P w a c b dd) (linkFromTo Q w a c b dd) := by
  have hn := newLink_ok hC hQ w c [some a, some b] h (by simp [World.ovOK, ha, hb])
  simp only [linkFromTo]
  split
  · split
    · exact ⟨rfl, fun _ _ e => by cases e⟩
    · exact ⟨rfl, fun _ _ e => by cases e; exact h⟩
    · exact hn
  · exact hn

theorem unlink_ok (F : Nat → LId → Option VId → Bool) (w : World) (a b : VId) (h : I w) :
    OkX I (unlink P w F a b) (unlink Q w F a b) := by
  simp only [unlink]
  split
  · exact ⟨rfl, fun _ _ e => by cases e⟩
  · rename_i J _
    obtain ⟨e, hq⟩ := unlinkEach_ok hC hQ w a b J h
    rw [e]
    refine ⟨rfl, fun w' J' e' => ?_⟩
    split at e'
    · cases e'
    · rename_i w1 h1
      cases e'
      exact hq _ h1

end

section
variable {P Q : Prims} {I : World → Prop} (hS : Sim P Q I) (hQ : FramePres Q)
include hS hQ

theorem uniAddVertices_ok (w : World) (u : VId) (vs : List VId) (h : I w) (hu : u < w.nV)
    (hvs : ∀ v ∈ vs, v < w.nV) : Ok I (uniAddVertices P w u vs) (uniAddVertices Q w u vs) := by
  rw [uniAddVertices_eq_fold, uniAddVertices_eq_fold]
  exact foldOpt_ok _ _ I vs w h
    (fun w' v hw hs hv => hS.uniAddVertex w' u v hw (hs.1 ▸ hu) (hs.1 ▸ hvs v hv))
    (fun w' v _ e => (hQ.uniAddVertex w' u v _ e).sameIds)

theorem newUniverse_ok (w : World) (attrs : List (Nat × Nat)) (vs : List VId) (L : Option WId)
    (h : I w) (hvs : ∀ v ∈ vs, v < w.nV) (hL : ∀ x, L = some x → x < w.nW) :
    OkX I (newUniverse P w attrs vs L) (newUniverse Q w attrs vs L) := by
  have h1 := hS.allocUni w attrs h
  obtain ⟨hw1, hK, hnV⟩ : I (preLaws w attrs L).1 ∧
      (preLaws w attrs L).2 < (preLaws w attrs L).1.nW ∧ (preLaws w attrs L).1.nV = w.nV + 1 := by
    cases L with
    | some K => exact ⟨h1, hL K rfl, rfl⟩
    | none => exact ⟨hS.allocLaws _ 0 h1, Nat.lt_succ_self _, rfl⟩
  rw [newUniverse_unfold P, newUniverse_unfold Q]
  generalize preLaws w attrs L = p at hw1 hK hnV
  have hu : w.nV < p.1.nV := by omega
  obtain ⟨e1, hq1⟩ := hS.setLaws p.1 w.nV (some p.2) hw1 hu (by intro _ e; cases e; exact hK)
  rw [e1]
  cases h2 : Q.setLaws p.1 w.nV (some p.2) with
  | none => exact ⟨rfl, fun _ _ e => by cases e⟩
  | some w2 =>
    have n2 := (hQ.setLaws p.1 _ _ w2 h2).nV
    have hu2 : w.nV < w2.nV := by omega
    obtain ⟨e3, hq3⟩ := uniAddVertices_ok hS hQ w2 w.nV vs (hq1 w2 h2) hu2
      (fun v hv => Nat.lt_trans (hvs v hv) hu2)
    simp only []
    rw [e3]
    refine ⟨rfl, fun w' u e' => ?_⟩
    split at e'
    · cases e'
    · rename_i w3 h3
      cases e'
      exact hq3 _ h3

end

end C

abbrev Agree (I : World → Prop) (x y : World × Ans) : Prop := x = y ∧ I y.1

namespace Agree
variable {I : World → Prop} {w : World} (h0 : I w)
include h0

/-- the guards of `C.step`: `!a`, `!a || !b`, `c || !a || !b` -/
theorem guard1 {a : Bool} {x y : World × Ans} (h : a = true → Agree I x y) :
    Agree I (if (!a) = true then (w, .bad) else x) (if (!a) = true then (w, .bad) else y) := by
  cases a
  · exact ⟨rfl, h0⟩
  · exact h rfl

theorem guard2 {a b : Bool} {x y : World × Ans} (h : a = true → b = true → Agree I x y) :
    Agree I (if (!a || !b) = true then (w, .bad) else x)
      (if (!a || !b) = true then (w, .bad) else y) := by
  cases a
  · exact ⟨rfl, h0⟩
  · cases b
    · exact ⟨rfl, h0⟩
    · exact h rfl rfl

theorem guard3 {c a b : Bool} {x y : World × Ans} (h : a = true → b = true → Agree I x y) :
    Agree I (if (c || !a || !b) = true then (w, .bad) else x)
      (if (c || !a || !b) = true then (w, .bad) else y) := by
  cases c
  · exact guard2 h0 h
  · exact ⟨rfl, h0⟩

theorem ofOpt {r₁ r₂ : Option World} (hr : Ok I r₁ r₂) : Agree I (C.ofOpt w r₁) (C.ofOpt w r₂) := by
  obtain ⟨rfl, hq⟩ := hr
  cases r₁ with
  | none => exact ⟨rfl, h0⟩
  | some w' => exact ⟨rfl, hq w' rfl⟩

theorem ofExc {r₁ r₂ : Except Err World} (hr : r₁ = r₂ ∧ ∀ w', r₂ = .ok w' → I w') :
    Agree I (C.ofExc w r₁) (C.ofExc w r₂) := by
  obtain ⟨rfl, hq⟩ := hr
  cases r₁ with
  | error _ => exact ⟨rfl, h0⟩
  | ok w' => exact ⟨rfl, hq w' rfl⟩

end Agree

/-- the operations that are neither membership operations nor constructors taking
    `universes=` / `vertices=` -/
def Op.nonMembership : Op → Prop
  | .newVertex .. | .newUniverse .. | .uniAdd .. | .uniRemove .. | .vAdd .. | .vRemove .. => False
  | .newLaws .. | .newEdge .. | .rejected .. | .newNLink .. | .setV1 .. | .setV2 .. | .addToLink ..
  | .removeFromLink .. | .addVertex .. | .unlinkFrom .. | .linkFromTo .. | .unlink .. | .setLaws ..
  | .setAppliesTo .. | .flag .. | .neighbors .. | .findLinks .. => True

namespace C
variable {P Q : Prims} {I : World → Prop} (hQ : FramePres Q)
  {F : Nat → LId → Option VId → Bool}
  (hN : ∀ w v dir unk filt fault, I w → I (M.neighbors w F v dir unk filt fault).1)
include hQ hN

/-- the step theorem for the operations that call no membership primitive; `hN`: the memo written
    by `neighbors` keeps `I` -/
theorem step_core (hC : SimCore P Q I) (w : World) (op : Op) (hop : op.nonMembership) (h : I w) :
    step P F w op = step Q F w op ∧ I (step Q F w op).1 := by
  show Agree I (step P F w op) (step Q F w op)
  cases op <;> simp only [step] <;> try exact hop.elim
  case newLaws r => exact ⟨rfl, hC.allocLaws w r h⟩
  case newEdge c a b =>
    refine Agree.guard3 h fun ha hb => ?_
    obtain ⟨e, hq⟩ := newLink_ok hC hQ w c [a, b] h (by simp [ha, hb])
    rw [e]
    refine ⟨rfl, ?_⟩
    split
    · exact h
    · exact hq _ _ ‹_›
  case rejected e => exact ⟨rfl, h⟩
  case newNLink vs =>
    refine Agree.guard1 h fun hvs => ?_
    obtain ⟨e, hq⟩ := newLink_ok hC hQ w .N vs h (List.all_eq_true.mp hvs)
    rw [e]
    refine ⟨rfl, ?_⟩
    split
    · exact h
    · exact hq _ _ ‹_›
  case setV1 l x =>
    exact .guard2 h fun hl hx => .ofExc h (setEnd_ok hC w l 0 x h (twoEnded_lt hl) (by omega) hx)
  case setV2 l x =>
    exact .guard2 h fun hl hx => .ofExc h (setEnd_ok hC w l 1 x h (twoEnded_lt hl) (by omega) hx)
  case addToLink v l =>
    exact .guard2 h fun hv hl => .ofOpt h (hC.addToLink w v l h (vOK_lt hv) (lOK_lt hl))
  case removeFromLink v l => exact .guard2 h fun _ _ => .ofOpt h (hC.removeFromLink w v l h)
  case addVertex l x =>
    exact .guard2 h fun hl hx => .ofOpt h (hC.addVertex w l x h (lOK_lt hl) hx)
  case unlinkFrom l x => exact .guard2 h fun _ _ => .ofOpt h (hC.unlinkFrom w l x h)
  case linkFromTo a c b dd =>
    refine Agree.guard3 h fun ha hb => ?_
    obtain ⟨e, hq⟩ := linkFromTo_ok hC hQ w a c b dd h ha hb
    rw [e]
    refine ⟨rfl, ?_⟩
    split
    · exact h
    · exact hq _ _ ‹_›
  case unlink a b d =>
    refine Agree.guard2 h fun _ _ => ?_
    obtain ⟨e, hq⟩ := unlink_ok hC hQ F w a b h
    rw [e]
    refine ⟨rfl, ?_⟩
    split
    · exact h
    · exact hq _ _ ‹_›
  case setLaws u L =>
    exact .guard2 h fun hu hL => .ofOpt h
      (hC.setLaws w u L h (isUni_lt hu) (fun x e => by subst e; exact wOK_lt hL))
  case setAppliesTo L u =>
    exact .guard2 h fun hL hu => .ofOpt h
      (hC.setAppliesTo w L u h (wOK_lt hL) (fun x e => by subst e; exact isUni_lt hu))
  case flag on => exact ⟨rfl, hC.flag w on h⟩
  case neighbors v dir unk filt fault =>
    refine Agree.guard1 h fun _ => ⟨rfl, ?_⟩
    have hn := hN w v dir unk filt fault h
    split
    · rename_i e
      rw [e] at hn
      exact hn
    · rename_i e
      rw [e] at hn
      exact hn
  case findLinks a b ds unk filt fault =>
    refine Agree.guard2 h fun _ _ => ⟨rfl, ?_⟩
    split <;> exact h

variable (hS : Sim P Q I)
include hS

theorem step_sim (w : World) (op : Op) (h : I w) :
    step P F w op = step Q F w op ∧ I (step Q F w op).1 := by
  show Agree I (step P F w op) (step Q F w op)
  cases op
  case newVertex c attrs ls us =>
    simp only [step]
    refine Agree.guard3 h fun hls hus => ?_
    obtain ⟨e, hq⟩ := hS.newVertex w c attrs ls us h
      (fun l hl => lOK_lt (List.all_eq_true.mp hls l hl))
      (fun u hu => isUni_lt (List.all_eq_true.mp hus u hu))
    rw [e]
    refine ⟨rfl, ?_⟩
    split
    · exact h
    · exact hq _ _ ‹_›
  case newUniverse attrs ms L =>
    simp only [step]
    refine Agree.guard2 h fun hms hL => ?_
    obtain ⟨e, hq⟩ := newUniverse_ok hS hQ w attrs ms L h
      (fun v hv => vOK_lt (List.all_eq_true.mp hms v hv)) (fun x e => by subst e; exact wOK_lt hL)
    rw [e]
    refine ⟨rfl, ?_⟩
    split
    · exact h
    · exact hq _ _ ‹_›
  case uniAdd u v =>
    simp only [step]
    exact .guard2 h fun hu hv => .ofOpt h (hS.uniAddVertex w u v h (isUni_lt hu) (vOK_lt hv))
  case vAdd v u =>
    simp only [step]
    exact .guard2 h fun hu hv => .ofOpt h (hS.addToUniverse w v u h (isUni_lt hu) (vOK_lt hv))
  case uniRemove u v =>
    simp only [step]
    refine Agree.guard2 h fun _ _ => ?_
    obtain ⟨e, hq⟩ := hS.uniRemoveVertex w u v h
    rw [e]
    refine ⟨rfl, ?_⟩
    split
    · exact h
    · rename_i r hr
      refine (Agree.ofExc h ⟨rfl, fun w' e' => hq w' ?_⟩).2
      rw [hr, e']
  case vRemove v u =>
    simp only [step]
    refine Agree.guard2 h fun _ _ => ?_
    obtain ⟨e, hq⟩ := hS.removeFromUniverse w v u h
    rw [e]
    refine ⟨rfl, ?_⟩
    split
    · exact h
    · rename_i r hr
      refine (Agree.ofExc h ⟨rfl, fun w' e' => hq w' ?_⟩).2
      rw [hr, e']
  all_goals exact step_core hQ hN hS.toSimCore w _ trivial h

theorem runFrom_sim (ops : List Op) : ∀ w, I w →
    runFrom P F w ops = runFrom Q F w ops ∧ I (runFrom Q F w ops).1 := by
  induction ops with
  | nil => exact fun w h => ⟨rfl, h⟩
  | cons op ops ih =>
    intro w h
    obtain ⟨e, h'⟩ := step_sim hQ hN hS w op h
    obtain ⟨e', h''⟩ := ih _ h'
    simp only [runFrom, e, e']
    exact ⟨trivial, h''⟩

end C
end EG
