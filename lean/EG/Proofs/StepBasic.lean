import EG.Proofs.Fold
/-
  EG.Proofs.StepBasic — what holds of `neighbors` and of the step for every record of primitives
  and every world: `neighbors` writes nothing but a memo; a raising / rejected call changes nothing.
-/
namespace EG

theorem M.neighbors_keeps {I : World → Prop} (hI : ∀ w c, I w → I { w with cache := c })
    {F : Nat → LId → Option VId → Bool} (w : World) (v : VId) (dir unk : Nat)
    (filt fault : Option Nat) (h : I w) : I (M.neighbors w F v dir unk filt fault).1 := by
  simp only [M.neighbors]
  split
  · exact h
  · split
    · exact h
    · split
      · exact hI w _ h
      · exact h

namespace C

theorem neighbors_eq (w : World) (F : Nat → LId → Option VId → Bool) (v : VId) (dir unk : Nat)
    (filt fault : Option Nat) :
    M.neighbors w F v dir unk filt fault =
      if w.caching && !M.unhashable filt then
        match M.cacheLookup ⟨dir, unk, filt⟩ (w.cache v) with
        | some ans => (w, .ok ans)
        | none =>
          match M.nbLoop w F v dir unk filt fault (w.links v) [] 0 with
          | .error e => (w, .error e)
          | .ok ans =>
            ({ w with cache := upd w.cache v ((⟨dir, unk, filt⟩, ans) :: w.cache v) }, .ok ans)
      else (w, M.nbLoop w F v dir unk filt fault (w.links v) [] 0) := by
  unfold M.neighbors
  cases w.caching && !M.unhashable filt
  · simp only [Bool.false_eq_true, ↓reduceIte]
    cases M.nbLoop w F v dir unk filt fault (w.links v) [] 0 <;> rfl
  · rfl

theorem neighbors_err (F : Nat → LId → Option VId → Bool) (w : World) (v : VId) (dir unk : Nat)
    (filt fault : Option Nat) (w' : World) (e : Err)
    (h : M.neighbors w F v dir unk filt fault = (w', .error e)) : w' = w := by
  simp only [M.neighbors] at h
  split at h
  · cases h
  · split at h <;> cases h
    rfl

theorem step_neighbors (P : Prims) (F : Nat → LId → Option VId → Bool) (w : World) (v : VId)
    (dir unk : Nat) (filt fault : Option Nat) :
    (step P F w (.neighbors v dir unk filt fault)).1 =
      if w.vOK v then (M.neighbors w F v dir unk filt fault).1 else w := by
  simp only [step]
  cases w.vOK v
  · rfl
  · obtain ⟨w', _ | _⟩ := M.neighbors w F v dir unk filt fault <;> rfl

theorem step_findLinks (P : Prims) (F : Nat → LId → Option VId → Bool) (w : World) (a b : VId)
    (ds : Bool) (unk : Nat) (filt fault : Option Nat) :
    (step P F w (.findLinks a b ds unk filt fault)).1 = w := by
  simp only [step]
  split
  · rfl
  · split <;> rfl

/-- every result of `step` is a guard, `ofOpt`, `ofExc`, or a match that sends an error to
    `(w, .err e)` and a success to an answer that is neither `.err` nor `.bad` -/
theorem step_raise (P : Prims) (F : Nat → LId → Option VId → Bool) (w : World) (op : Op)
    (h : (∃ e, (step P F w op).2 = .err e) ∨ (step P F w op).2 = .bad) : (step P F w op).1 = w := by
  -- `Q r` : if `r` carries a failing answer, its world is `w`
  let Q : World × Ans → Prop := fun r => ((∃ e, r.2 = .err e) ∨ r.2 = .bad) → r.1 = w
  have guard : ∀ (c : Bool) (r : World × Ans), Q r → Q (if c = true then (w, .bad) else r) := by
    intro c r hr
    cases c
    · exact hr
    · exact fun _ => rfl
  have ho : ∀ r, Q (ofOpt w r) := by
    intro r
    cases r with
    | none => exact fun _ => rfl
    | some w' => intro hr; simp [ofOpt] at hr
  have he : ∀ r, Q (ofExc w r) := by
    intro r
    cases r with
    | error e => exact fun _ => rfl
    | ok w' => intro hr; simp [ofExc] at hr
  have nf : ∀ (w' : World) (a : Ans), (∀ e, a ≠ .err e) → a ≠ .bad → Q (w', a) := by
    intro w' a h1 h2 hr
    rcases hr with ⟨e, he⟩ | hb
    · exact absurd he (h1 e)
    · exact absurd hb h2
  suffices Q (step P F w op) from this h
  cases op <;> dsimp only [step]
  case newVertex | newUniverse | newEdge | newNLink | linkFromTo | findLinks =>
    refine guard _ _ ?_
    split
    · exact fun _ => rfl
    · exact nf _ _ (by simp) (by simp)
  case newLaws | flag => exact nf _ _ (by simp) (by simp)
  case rejected => exact fun _ => rfl
  case addToLink | removeFromLink | addVertex | unlinkFrom | uniAdd | vAdd | setLaws
      | setAppliesTo => exact guard _ _ (ho _)
  case setV1 | setV2 => exact guard _ _ (he _)
  case unlink a b d =>
    refine guard _ _ ?_
    split
    · exact fun _ => rfl
    · exact nf _ _ (by cases d <;> simp) (by cases d <;> simp)
  case uniRemove | vRemove =>
    refine guard _ _ ?_
    split
    · exact fun _ => rfl
    · exact he _
  case neighbors v dir unk filt fault =>
    refine guard _ _ ?_
    split
    · exact fun _ => neighbors_err _ _ _ _ _ _ _ _ _ ‹_›
    · exact nf _ _ (by simp) (by simp)

end C
end EG
