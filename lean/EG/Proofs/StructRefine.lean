import EG.StructSpec
import EG.Proofs.Lists
/-
  EG.Proofs.StructRefine — the mirror model M of the association primitives equals
  the plain reference model S, for every fuel above a small constant.
-/
namespace EG

theorem upd_eq_self {α : Type} {f : Nat → α} {i : Nat} {x : α} (h : f i = x) : upd f i x = f := by
  funext j
  simp only [upd]
  split
  · next hj => rw [hj, h]
  · rfl

theorem World.ext' {a b : World}
    (h1 : a.nV = b.nV) (h2 : a.nL = b.nL) (h3 : a.nW = b.nW)
    (h4 : ∀ x, a.vcls x = b.vcls x) (h5 : ∀ x, a.links x = b.links x)
    (h6 : ∀ x, a.unis x = b.unis x) (h7 : ∀ x, a.members x = b.members x)
    (h8 : ∀ x, a.laws x = b.laws x) (h9 : ∀ x, a.attrs x = b.attrs x)
    (h10 : ∀ x, a.lcls x = b.lcls x) (h11 : ∀ x, a.ends x = b.ends x)
    (h12 : ∀ x, a.appliesTo x = b.appliesTo x) (h12' : ∀ x, a.rules x = b.rules x)
    (h13 : a.caching = b.caching)
    (h14 : ∀ x, a.cache x = b.cache x) : a = b := by
  cases a; cases b
  simp only [World.mk.injEq]
  simp only at *
  exact ⟨h1, h2, h3, funext h4, funext h5, funext h6, funext h7, funext h8, funext h9,
    funext h10, funext h11, funext h12, funext h12', h13, funext h14⟩

theorem filter_ne_self (l : List (Option Nat)) (a : Option Nat) (h : a ∉ l) :
    l.filter (· != a) = l := by
  rw [List.filter_eq_self]; intro x hx; simp; intro hxa; exact h (hxa ▸ hx)

/-- the column equations `simp` leaves of `some w₁ = some w₂`: pointwise, `upd` unfolded, then
    the case analysis on the ids -/
macro "world_cols" : tactic =>
  `(tactic| ((repeat' apply And.intro) <;> funext x <;> (try simp [upd]) <;> grind))

/-- the world between the two halves of `_replace_end`: entry `idx` assigned, the previous
    vertex detached if it is no longer listed, the new one not yet attached -/
def S.detachEnd (w : World) (l : LId) (idx : Nat) (new : Option VId) : World :=
  let old := (w.ends l).getD idx none
  let es := (w.ends l).set idx new
  { w with
    links := fun x => if some x = old ∧ some x ∉ es then (w.links x).erase l else w.links x
    ends := fun y => if y = l then es else w.ends y
    cache := fun x => if some x ∈ w.ends l ∨ some x ∈ es then [] else w.cache x }

namespace M

/-- depth 2: after `v` appends `l`, `add_vertex`'s call back stops at `l ∈ links v` -/
theorem addToLink_eq (f : Nat) (w : World) (v : VId) (l : LId) :
    addToLink (f+2) w v l = some (S.addToLink w v l) := by
  simp only [addToLink, addVertex, S.addToLink, World.invalidate, World.invalidateEnds,
    World.setLinks, World.setEnds]
  by_cases h1 : l ∈ w.links v
  · simp [h1]; world_cols
  · by_cases h2 : some v ∈ w.ends l
    · simp [h1, h2]; world_cols
    · simp [h1, h2]; world_cols

/-- depth 2: after `l` appends `v`, `add_to_link`'s call back stops at `some v ∈ ends l` -/
theorem addVertex_eq (f : Nat) (w : World) (l : LId) (new : Option VId) :
    addVertex (f+2) w l new = some (S.addVertex w l new) := by
  simp only [addToLink, addVertex, S.addVertex, World.invalidate, World.invalidateEnds,
    World.setLinks, World.setEnds]
  cases new with
  | none => simp; world_cols
  | some v =>
    by_cases h1 : l ∈ w.links v
    · simp [h1]; world_cols
    · simp [h1]; world_cols

/-- depth 3: `v` erases `l`, `unlink_from` filters `v` out and calls back, and that call stops at
    `l ∉ links v` — one erasure removes `l` because `links v` has no duplicates -/
theorem removeFromLink_eq (f : Nat) (w : World) (v : VId) (l : LId) (hn : (w.links v).Nodup) :
    removeFromLink (f+3) w v l = some (S.removeFromLink w v l) := by
  have hne : l ∉ (w.links v).erase l := fun h => (List.Nodup.mem_erase_iff hn).mp h |>.1 rfl
  simp only [removeFromLink, unlinkFrom, S.removeFromLink, World.invalidate, World.invalidateEnds,
    World.setLinks, World.setEnds]
  by_cases h1 : l ∈ w.links v
  · by_cases h2 : some v ∈ w.ends l
    · simp [h1, h2, hne]; world_cols
    · have hfilter := filter_ne_self (w.ends l) (some v) h2
      simp [h1, h2]; world_cols
  · have herase := List.erase_of_not_mem h1
    simp [h1]; world_cols

/-- depth 3: `l` filters `k` out, `remove_from_link` erases `l` and calls back, and that call stops
    at `some k ∉ ends l` -/
theorem unlinkFrom_eq (f : Nat) (w : World) (l : LId) (kill : Option VId)
    (hn : ∀ k, kill = some k → (w.links k).Nodup) :
    unlinkFrom (f+3) w l kill = some (S.unlinkFrom w l kill) := by
  simp only [removeFromLink, unlinkFrom, S.unlinkFrom, World.invalidate, World.invalidateEnds,
    World.setLinks, World.setEnds]
  cases kill with
  | none =>
    by_cases h1 : none ∈ w.ends l
    · simp [h1]; world_cols
    · have herase := List.erase_of_not_mem h1
      simp [h1]
      apply World.ext' <;> intros <;> simp <;> grind
  | some k =>
    have hn := hn k rfl
    have hne : l ∉ (w.links k).erase l := fun h => (List.Nodup.mem_erase_iff hn).mp h |>.1 rfl
    by_cases h1 : some k ∈ w.ends l
    · by_cases h2 : l ∈ w.links k
      · simp [h1, h2]; world_cols
      · have herase := List.erase_of_not_mem h2
        simp [h1, h2]; world_cols
    · have hfilter := filter_ne_self (w.ends l) (some k) h1
      simp [h1]
      apply World.ext' <;> intros <;> simp <;> grind

/-- first half of `_replace_end`.  The left-hand side copies the first `match` of `M.replaceEnd`
    (the halves have no names of their own in the model); keep it in step. -/
theorem detach_eq (f : Nat) (w : World) (l : LId) (idx : Nat) (new : Option VId)
    (hi : idx < (w.ends l).length) (hn : ∀ v, (w.links v).Nodup) :
    (match (w.ends l).getD idx none with
      | none => some (rawSetEnd w l idx new)
      | some o => if some o ∈ (rawSetEnd w l idx new).ends l then some (rawSetEnd w l idx new)
          else removeFromLink (f+3) (rawSetEnd w l idx new) o l) =
      some (S.detachEnd w l idx new) := by
  have hold : (w.ends l).getD idx none ∈ w.ends l := by
    rw [List.getD_eq_getElem?_getD, List.getElem?_eq_getElem hi]; simp
  have hends : (rawSetEnd w l idx new).ends l = (w.ends l).set idx new := by
    simp [rawSetEnd, World.invalidateEnds, World.setEnds]
  rw [hends]
  cases hO : (w.ends l).getD idx none with
  | none =>
    simp [S.detachEnd, rawSetEnd, World.invalidateEnds, World.setEnds]; world_cols
  | some o =>
    rw [hO] at hold
    simp only []
    by_cases h1 : some o ∈ (w.ends l).set idx new
    · rw [if_pos h1]
      simp [S.detachEnd, rawSetEnd, World.invalidateEnds, World.setEnds]; world_cols
    · rw [if_neg h1, removeFromLink_eq f _ o l (by simpa [rawSetEnd, World.invalidateEnds, World.setEnds] using hn o)]
      have hf := filter_ne_self _ _ h1
      simp [S.detachEnd, S.removeFromLink, h1, hf, rawSetEnd, World.invalidateEnds, World.setEnds]; world_cols

/-- second half; the left-hand side copies the second `match` of `M.replaceEnd` -/
theorem attach_eq (f : Nat) (w : World) (l : LId) (idx : Nat) (new : Option VId)
    (hi : idx < (w.ends l).length) :
    (match new with
      | none => some (S.detachEnd w l idx new)
      | some n => if l ∈ (S.detachEnd w l idx new).links n then some (S.detachEnd w l idx new)
          else addToLink (f+2) (S.detachEnd w l idx new) n l) =
      some (S.replaceEnd w l idx new) := by
  have hnew : new ∈ (w.ends l).set idx new := List.mem_set hi new
  cases new with
  | none => simp [S.detachEnd, S.replaceEnd]
  | some n =>
    simp only []
    by_cases h3 : l ∈ (S.detachEnd w l idx (some n)).links n
    · rw [if_pos h3]
      simp only [S.detachEnd] at h3
      simp [S.detachEnd, S.replaceEnd]; world_cols
    · rw [if_neg h3, addToLink_eq]
      simp only [S.detachEnd] at h3
      simp [S.detachEnd, S.replaceEnd, S.addToLink, hnew]; world_cols

theorem replaceEnd_eq (f : Nat) (w : World) (l : LId) (idx : Nat) (new : Option VId)
    (hi : idx < (w.ends l).length) (hn : ∀ v, (w.links v).Nodup) :
    replaceEnd (f+3) w l idx new = some (S.replaceEnd w l idx new) := by
  unfold replaceEnd
  simp only []
  have e1 := detach_eq f w l idx new hi hn
  split
  · rename_i heq; exact absurd (e1.symm.trans heq) (by simp)
  · rename_i w1 heq
    cases e1.symm.trans heq
    exact attach_eq (f+1) w l idx new hi

end M
end EG
