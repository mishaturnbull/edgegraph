import EG.Proofs.StructRefine
/-
  EG.Proofs.Sym — the association invariant of C01 and its preservation by every
  primitive of the reference model S.
-/
namespace EG

/-- C01: a link is listed by a vertex iff the vertex is listed by the link; no vertex
    lists a link twice. -/
def Sym (w : World) : Prop :=
  (∀ v l, l ∈ w.links v ↔ some v ∈ w.ends l) ∧ ∀ v, (w.links v).Nodup

theorem Sym.iff {w : World} (h : Sym w) (v : VId) (l : LId) :
    l ∈ w.links v ↔ some v ∈ w.ends l := h.1 v l
theorem Sym.nodup {w : World} (h : Sym w) (v : VId) : (w.links v).Nodup := h.2 v

theorem USym.iff {w : World} (h : USym w) (v u : VId) : v ∈ w.members u ↔ u ∈ w.unis v :=
  h.1 v u
theorem USym.nodupMembers {w : World} (h : USym w) (u : VId) : (w.members u).Nodup :=
  h.2.1 u
theorem USym.nodupUnis {w : World} (h : USym w) (v : VId) : (w.unis v).Nodup := h.2.2 v

theorem nodup_ite {c : Prop} [Decidable c] {xs ys : List Nat} (hx : c → xs.Nodup) (hy : ys.Nodup) :
    (if c then xs else ys).Nodup := by
  split
  · exact hx ‹c›
  · exact hy

theorem mem_set_of_mem_ne (l : List (Option Nat)) (i : Nat) (a x : Option Nat)
    (hx : x ∈ l) (hne : x ≠ l.getD i none) : x ∈ l.set i a := by
  induction l generalizing i with
  | nil => simp at hx
  | cons y ys ih =>
    cases i with
    | zero =>
      simp at hne ⊢
      rcases List.mem_cons.mp hx with h | h
      · exact absurd h hne
      · exact Or.inr h
    | succ j =>
      simp at hne ⊢
      rcases List.mem_cons.mp hx with h | h
      · exact Or.inl h
      · exact Or.inr (ih j h (by simpa using hne))

namespace S

theorem addToLink_sym (w : World) (v : VId) (l : LId) (h : Sym w) : Sym (S.addToLink w v l) := by
  obtain ⟨h1, h2⟩ := h
  constructor
  · intro v' l'
    -- here and below: the symmetry of `w` at the four pairs the update can touch, then a case
    -- analysis on which of them `(v', l')` is
    have := h1 v' l'; have := h1 v l; have := h1 v' l; have := h1 v l'
    simp only [S.addToLink]; grind
  · exact fun v' => nodup_ite (fun hc => nodup_snoc (h2 v) hc.2) (h2 v')

theorem addVertex_sym (w : World) (l : LId) (new : Option VId) (h : Sym w) :
    Sym (S.addVertex w l new) := by
  obtain ⟨h1, h2⟩ := h
  constructor
  · intro v' l'
    have := h1 v' l'; have := h1 v' l
    simp only [S.addVertex]; grind
  · exact fun v' => nodup_ite (fun hc => nodup_snoc (h2 v') hc.2) (h2 v')

theorem removeFromLink_sym (w : World) (v : VId) (l : LId) (h : Sym w) :
    Sym (S.removeFromLink w v l) := by
  obtain ⟨h1, h2⟩ := h
  constructor
  · intro v' l'
    have := h1 v' l'; have := h1 v l; have := h1 v' l; have := h1 v l'
    have := List.Nodup.mem_erase_iff (a := l') (b := l) (h2 v)
    simp only [S.removeFromLink]; grind
  · exact fun v' => nodup_ite (fun _ => List.Nodup.erase _ (h2 v)) (h2 v')

theorem unlinkFrom_sym (w : World) (l : LId) (kill : Option VId) (h : Sym w) :
    Sym (S.unlinkFrom w l kill) := by
  obtain ⟨h1, h2⟩ := h
  cases kill with
  | none =>
    constructor
    · intro v' l'
      have := h1 v' l'; have := h1 v' l
      have : some v' ∈ (w.ends l).erase none ↔ some v' ∈ w.ends l :=
        List.mem_erase_of_ne (by simp)
      simp only [S.unlinkFrom]; grind
    · intro v'; exact h2 v'
  | some k =>
    constructor
    · intro v' l'
      have := h1 v' l'; have := h1 k l; have := h1 v' l; have := h1 k l'
      have := List.Nodup.mem_erase_iff (a := l') (b := l) (h2 k)
      simp only [S.unlinkFrom]; grind
    · exact fun v' => nodup_ite (fun _ => List.Nodup.erase _ (h2 k)) (h2 v')

theorem replaceEnd_sym (w : World) (l : LId) (idx : Nat) (new : Option VId)
    (hi : idx < (w.ends l).length) (h : Sym w) : Sym (S.replaceEnd w l idx new) := by
  obtain ⟨h1, h2⟩ := h
  have hnew : new ∈ (w.ends l).set idx new := List.mem_set hi new
  constructor
  · intro v' l'
    have e1 := h1 v' l'; have e2 := h1 v' l
    have e3 := List.Nodup.mem_erase_iff (a := l') (b := l) (h2 v')
    have e4 : some v' ∈ (w.ends l).set idx new → some v' ∈ w.ends l ∨ some v' = new :=
      List.mem_or_eq_of_mem_set
    have e5 : some v' ∈ w.ends l → some v' ≠ (w.ends l).getD idx none →
        some v' ∈ (w.ends l).set idx new := mem_set_of_mem_ne _ _ _ _
    simp only [S.replaceEnd]
    grind
  · intro v'
    have hd : (if some v' = (w.ends l).getD idx none ∧ some v' ∉ (w.ends l).set idx new then
        (w.links v').erase l else w.links v').Nodup :=
      nodup_ite (fun _ => List.Nodup.erase l (h2 v')) (h2 v')
    exact nodup_ite (fun hc => nodup_snoc hd hc.2) hd

end S
end EG
