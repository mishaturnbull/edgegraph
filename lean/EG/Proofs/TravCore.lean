import EG.TravSpec
import EG.Proofs.Lists
import Mathlib.Data.List.Perm.Subperm
/-
  EG.Proofs.TravCore — what C06 says of a listing (`Lists`, `Sound`), reachability, and the
  breadth-first loop: its closed form (`out` and `ffr` factor out), its listing spec `bftSpec`,
  and a rule for its invariants which also says that a run that empties its queue is not changed
  by more fuel.  One run of the rule on any graph (`bft_run`) gives safety; that the listing has
  no repetition and only reachable entries bounds its length, hence the number of iterations,
  and exactness and fuel independence follow (`bft_halts`).
-/
namespace EG
namespace T

variable (nb : Nat → List Nat) (inU : Nat → Bool) (ffr : Nat → Bool)

theorem len_le (n : Nat) (l : List Nat) (h : l.Nodup) (hb : ∀ y ∈ l, y < n) : l.length ≤ n := by
  have : l.Subperm (List.range n) := List.Nodup.subperm h (by intro y hy; simp [hb y hy])
  simpa using this.length_le

/-- `Nodup` list of ids below `n` -/
def Good (n : Nat) (l : List Nat) : Prop := l.Nodup ∧ ∀ y ∈ l, y < n

theorem Good.length_le {n : Nat} {l : List Nat} (h : Good n l) : l.length ≤ n :=
  len_le n l h.1 h.2

theorem Good.snoc {n : Nat} {l : List Nat} (h : Good n l) {v : Nat} (hv : v < n) (hm : v ∉ l) :
    Good n (l ++ [v]) :=
  ⟨nodup_snoc h.1 hm, fun y hy => by
    rcases List.mem_append.1 hy with hy | hy
    · exact h.2 y hy
    · simp at hy; subst hy; exact hv⟩

/-- positive fuel is what `n ≤ vis.length + f` means for an unvisited `w` (pigeonhole) -/
theorem fuel_pos {n f w : Nat} {vis : List Nat} (hg : Good n vis) (hw : w < n) (hm : w ∉ vis)
    (hf : n ≤ vis.length + f) : ∃ f', f = f' + 1 := by
  have := (hg.snoc hw hm).length_le
  simp at this
  exact ⟨f - 1, by omega⟩

/-- a vertex met by a depth-first loop is passed over or entered: the two cases as the lemmas
    about the loops ask for them -/
theorem skip_or_push (v : Nat) (vis : List Nat) :
    (v ∈ vis ∨ inU v = false) ∨ (v ∉ vis ∧ inU v = true) := by
  by_cases h1 : v ∈ vis <;> cases h2 : inU v <;> simp [h1]

theorem reach_mem_of_closed {s : Nat} {vis : List Nat} (hs : s ∈ vis)
    (hc : ∀ x ∈ vis, ∀ y ∈ nb x, inU y = true → y ∈ vis) :
    ∀ x, Reach nb inU s x → x ∈ vis := by
  intro x hx
  induction hx with
  | refl => exact hs
  | step _ hy hu ih => exact hc _ ih _ hy hu

variable {nb inU} in
theorem Reach.lt {n s : Nat} (hb : Bounded nb n) (hs : s < n) {x : Nat} (h : Reach nb inU s x) :
    x < n := by
  induction h with
  | refl => exact hs
  | step _ hy _ ih => exact hb _ ih _ hy

section avoiding
variable {nb inU}

theorem ReachAvoiding.mono {a b : List Nat} (hab : ∀ x, x ∈ a → x ∈ b) {v y : Nat}
    (h : ReachAvoiding nb inU b v y) : ReachAvoiding nb inU a v y := by
  induction h with
  | refl hn => exact .refl (fun h => hn (hab _ h))
  | step _ hy hu hn ih => exact .step ih hy hu (fun h => hn (hab _ h))

theorem ReachAvoiding.trans {a : List Nat} {v w y : Nat} (h1 : ReachAvoiding nb inU a v w)
    (h2 : ReachAvoiding nb inU a w y) : ReachAvoiding nb inU a v y := by
  induction h2 with
  | refl _ => exact h1
  | step _ hy hu hn ih => exact .step ih hy hu hn

theorem reach_of_reachAvoiding {avoid : List Nat} {s y : Nat}
    (h : ReachAvoiding nb inU avoid s y) : Reach nb inU s y := by
  induction h with
  | refl _ => exact .refl
  | step _ hy hu _ ih => exact .step ih hy hu

theorem reachAvoiding_nil {s y : Nat} : ReachAvoiding nb inU [] s y ↔ Reach nb inU s y :=
  ⟨reach_of_reachAvoiding, fun h => by
    induction h with
    | refl => exact .refl (by simp)
    | step _ hy hu ih => exact .step ih hy hu (by simp)⟩

theorem ReachAvoiding.mem_of_closed {vis vis' : List Nat} {v : Nat} (hv : v ∈ vis')
    (hc : ∀ y ∈ vis', y ∉ vis → ∀ z ∈ nb y, inU z = true → z ∈ vis') :
    ∀ y, ReachAvoiding nb inU vis v y → y ∈ vis' ∧ y ∉ vis := by
  intro y h
  induction h with
  | refl hn => exact ⟨hv, hn⟩
  | step _ hy hu hn ih => exact ⟨hc _ ih.1 ih.2 _ hy hu, hn⟩

end avoiding

/-- `out` lists exactly the vertices reachable from `s` through the universe, each once,
    `s` first -/
def Lists (s : Nat) (out : List Nat) : Prop :=
  out.Nodup ∧ out.head? = some s ∧ ∀ x, x ∈ out ↔ Reach nb inU s x

/-- `out` lists only such vertices, each once, `s` first if anything: what still holds of a
    listing that was cut short -/
def Sound (s : Nat) (out : List Nat) : Prop :=
  out.Nodup ∧ (out ≠ [] → out.head? = some s) ∧ ∀ x ∈ out, Reach nb inU s x

/-- BFS examines the neighbours of each listed vertex in listing order: the output is the
    start followed, for each listed vertex in turn, by those of its in-universe neighbours
    (in `nb` order, first occurrence) that are not listed before -/
def bftChildren (listed : List Nat) : List Nat → List Nat
  | [] => []
  | w :: ws =>
    if inU w = true ∧ w ∉ listed then w :: bftChildren (listed ++ [w]) ws
    else bftChildren listed ws

/-- the listing unfolded from position `i` on: everything listed so far is `acc` -/
def bftSpec : Nat → List Nat → Nat → List Nat
  | 0, acc, _ => acc
  | f+1, acc, i =>
    match acc[i]? with
    | none => acc
    | some u => bftSpec f (acc ++ bftChildren inU acc (nb u)) (i + 1)

variable {inU} in
theorem mem_bftChildren {x : Nat} (ns : List Nat) : ∀ vis : List Nat,
    x ∈ bftChildren inU vis ns ↔ x ∈ ns ∧ inU x = true ∧ x ∉ vis := by
  induction ns with
  | nil => simp [bftChildren]
  | cons v vs ih =>
    intro vis
    simp only [bftChildren]
    split
    · next c =>
      by_cases e : x = v
      · simp [e, c]
      · simp [ih, e]
    · next c =>
      by_cases e : x = v
      · subst e; simp [ih]; tauto
      · simp [ih, e]

variable {inU} in
theorem bftChildren_nodup (ns : List Nat) : ∀ {vis : List Nat}, vis.Nodup →
    (vis ++ bftChildren inU vis ns).Nodup := by
  induction ns with
  | nil => intro vis h; simpa [bftChildren] using h
  | cons v vs ih =>
    intro vis h
    simp only [bftChildren]
    split
    · next c => simpa using ih (nodup_snoc h c.2)
    · exact ih h

theorem bftScan_eq (ns : List Nat) : ∀ (vis q out : List Nat),
    bftScan inU ffr vis q out ns =
      (vis ++ bftChildren inU vis ns, q ++ bftChildren inU vis ns,
        out ++ (bftChildren inU vis ns).filter ffr) := by
  induction ns with
  | nil => intro vis q out; simp [bftScan, bftChildren]
  | cons v vs ih =>
    intro vis q out
    by_cases h1 : inU v = true <;> by_cases h2 : v ∈ vis <;> by_cases h3 : ffr v = true <;>
      simp [bftScan, bftChildren, h1, h2, h3, ih]

variable {nb inU ffr} in
theorem bftLoop_cons {f u : Nat} {vis q out : List Nat} :
    bftLoop nb inU ffr (f + 1) vis (u :: q) out =
      bftLoop nb inU ffr f (vis ++ bftChildren inU vis (nb u)) (q ++ bftChildren inU vis (nb u))
        (out ++ (bftChildren inU vis (nb u)).filter ffr) := by
  simp only [bftLoop, bftScan_eq]

theorem bftLoop_eq (f : Nat) : ∀ (ffr : Nat → Bool) (vis q out : List Nat),
    bftLoop nb inU ffr f vis q out =
      out ++ (bftLoop nb inU (fun _ => true) f vis q []).filter ffr := by
  induction f with
  | zero => intros; simp [bftLoop]
  | succ f ih =>
    intro ffr vis q out
    cases q with
    | nil => simp [bftLoop]
    | cons u q =>
      rw [bftLoop_cons, bftLoop_cons, ih ffr, ih (fun _ => true) _ _ ([] ++ _)]
      simp [List.filter_append]

theorem bftLoop_ff (f : Nat) (vis q out : List Nat) :
    bftLoop nb inU ffr f vis q (out.filter ffr) =
      (bftLoop nb inU (fun _ => true) f vis q out).filter ffr := by
  rw [bftLoop_eq nb inU f ffr, bftLoop_eq nb inU f (fun _ => true) _ _ out]
  simp [List.filter_append]

theorem bftLoop_out (f : Nat) (vis q out : List Nat) :
    bftLoop nb inU ffr f vis q out = out ++ bftLoop nb inU ffr f vis q [] := by
  rw [bftLoop_eq nb inU f ffr, bftLoop_eq nb inU f ffr vis q []]; simp

theorem bftLoop_eq_spec : ∀ (f : Nat) (acc : List Nat) (i : Nat),
    bftLoop nb inU (fun _ => true) f acc (acc.drop i) acc = bftSpec nb inU f acc i := by
  intro f
  induction f with
  | zero => intros; simp [bftLoop, bftSpec]
  | succ f ih =>
    intro acc i
    cases h : acc[i]? with
    | none =>
      have : acc.drop i = [] := by
        rw [List.drop_eq_nil_iff]; exact List.getElem?_eq_none_iff.1 h
      simp [this, bftLoop, bftSpec, h]
    | some u =>
      obtain ⟨hi, rfl⟩ := List.getElem?_eq_some_iff.1 h
      rw [List.drop_eq_getElem_cons hi, bftLoop_cons, List.filter_true]
      simp only [bftSpec, h]
      rw [← ih, List.drop_append_of_le_length (by omega)]

variable {nb inU} in
/-- Hoare rule: an invariant of (remaining fuel, visited, queue) kept by one expansion holds
    when the loop stops, and it stops out of fuel or with an empty queue; in the latter case more
    fuel changes nothing.  The loop is run with `out := vis` and no filter, so that what it
    returns IS the final visited list -/
theorem bftLoop_rule {I : Nat → List Nat → List Nat → Prop}
    (step : ∀ f vis u q, I (f + 1) vis (u :: q) →
      I f (vis ++ bftChildren inU vis (nb u)) (q ++ bftChildren inU vis (nb u))) :
    ∀ f vis q, I f vis q →
      ∃ f' q', I f' (bftLoop nb inU (fun _ => true) f vis q vis) q' ∧ (f' = 0 ∨ q' = [] ∧
        ∀ k ffr out, bftLoop nb inU ffr (f + k) vis q out = bftLoop nb inU ffr f vis q out) := by
  intro f
  induction f with
  | zero => intro vis q h; exact ⟨0, q, by simpa [bftLoop] using h, Or.inl rfl⟩
  | succ f ih =>
    intro vis q h
    cases q with
    | nil =>
      exact ⟨f + 1, [], by simpa [bftLoop] using h, Or.inr ⟨rfl, fun k ffr out => by
        rw [Nat.add_right_comm]; simp [bftLoop]⟩⟩
    | cons u q =>
      obtain ⟨f', q', hI, e⟩ := ih _ _ (step f vis u q h)
      refine ⟨f', q', by rwa [bftLoop_cons, List.filter_true], e.imp_right fun ⟨e1, e2⟩ =>
        ⟨e1, fun k ffr out => by rw [Nat.add_right_comm, bftLoop_cons, bftLoop_cons, e2]⟩⟩

/-- the part of the BFS invariant that speaks about reachability from `s` -/
structure BInv2 (s : Nat) (vis q : List Nat) : Prop where
  closed : ∀ x ∈ vis, x ∈ q ∨ ∀ y ∈ nb x, inU y = true → y ∈ vis
  reach : ∀ x ∈ vis, Reach nb inU s x
  head : vis.head? = some s

variable {nb inU} in
theorem bft_closed_step {vis q : List Nat} {u : Nat}
    (h : ∀ x ∈ vis, x ∈ u :: q ∨ ∀ y ∈ nb x, inU y = true → y ∈ vis) :
    ∀ x ∈ vis ++ bftChildren inU vis (nb u), x ∈ q ++ bftChildren inU vis (nb u) ∨
      ∀ y ∈ nb x, inU y = true → y ∈ vis ++ bftChildren inU vis (nb u) := by
  intro x hx
  simp only [List.mem_append] at hx ⊢
  rcases hx with hx | hx
  · rcases h x hx with h1 | h1
    · rcases List.mem_cons.1 h1 with rfl | h1
      · exact Or.inr fun y hy hu => (Decidable.em (y ∈ vis)).imp_right fun hn =>
          (mem_bftChildren _ _).2 ⟨hy, hu, hn⟩
      · exact Or.inl (Or.inl h1)
    · exact Or.inr fun y hy hu => Or.inl (h1 y hy hu)
  · exact Or.inl (Or.inr hx)

variable {nb inU} in
theorem BInv2.step {s : Nat} {vis q : List Nat} {u : Nat} (hq : u ∈ vis)
    (h : BInv2 nb inU s vis (u :: q)) :
    BInv2 nb inU s (vis ++ bftChildren inU vis (nb u)) (q ++ bftChildren inU vis (nb u)) := by
  refine ⟨bft_closed_step h.closed, fun x hx => ?_, by simp [List.head?_append, h.head]⟩
  rcases List.mem_append.1 hx with hx | hx
  · exact h.reach x hx
  · have := (mem_bftChildren _ _).1 hx
    exact Reach.step (h.reach u hq) this.1 this.2.1

variable {nb inU} in
/-- what holds of a run on any graph with any fuel: the listing `done ++ q'` has no repetition,
    satisfies `BInv2`, and every iteration has moved one vertex from the queue to `done` -/
theorem bft_run (s f : Nat) : ∃ f' q' done, (bft nb inU (fun _ => true) f s).Nodup ∧
    BInv2 nb inU s (bft nb inU (fun _ => true) f s) q' ∧
    bft nb inU (fun _ => true) f s = done ++ q' ∧ done.length + f' = f ∧
    (f' = 0 ∨ q' = [] ∧ ∀ k ffr, bft nb inU ffr (f + k) s = bft nb inU ffr f s) := by
  obtain ⟨f', q', ⟨a, c, done, e, m⟩, t⟩ := bftLoop_rule
    (I := fun f' vis q => vis.Nodup ∧ BInv2 nb inU s vis q ∧
      ∃ done, vis = done ++ q ∧ done.length + f' = f)
    (fun f' vis u q ⟨a, c, done, e, m⟩ => ⟨bftChildren_nodup _ a, c.step (by simp [e]),
      done ++ [u], by simp [e], by simp; omega⟩) f [s] [s]
    ⟨by simp, ⟨by simp, by intro x hx; simp at hx; subst hx; exact Reach.refl, by simp⟩,
      [], by simp, by simp⟩
  simp only [bft, if_true]
  exact ⟨f', q', done, a, c, e, m, t.imp_right fun ⟨t1, t2⟩ => ⟨t1, fun k ffr => t2 k ffr _⟩⟩

variable {nb inU} in
theorem bft_sound {f s : Nat} : Sound nb inU s (bft nb inU (fun _ => true) f s) := by
  obtain ⟨_, _, _, a, c, _⟩ := bft_run (nb := nb) (inU := inU) s f
  exact ⟨a, fun _ => c.head, c.reach⟩

variable {nb inU} in
/-- the listing has at most `n` entries (no repetition, all reachable, so all below `n`), and
    each iteration dequeues one of them: fuel `n + 1` cannot run out before the queue does -/
theorem bft_halts {n : Nat} (hb : Bounded nb n) {s : Nat} (hs : s < n) {f : Nat} (hf : n + 1 ≤ f) :
    Lists nb inU s (bft nb inU (fun _ => true) f s) ∧
      ∀ k ffr, bft nb inU ffr (f + k) s = bft nb inU ffr f s := by
  obtain ⟨f', q', done, a, c, e, m, t⟩ := bft_run (nb := nb) (inU := inU) s f
  have := len_le n _ a fun y hy => (c.reach y hy).lt hb hs
  rw [e, List.length_append] at this
  obtain ⟨rfl, t'⟩ := t.resolve_left (by omega)
  exact ⟨⟨a, c.head, fun x => ⟨c.reach x, reach_mem_of_closed nb inU (List.mem_of_head? c.head)
    (fun x hx => (c.closed x hx).resolve_left (by simp)) x⟩⟩, t'⟩

variable {nb inU ffr} in
theorem bft_ff {f s : Nat} :
    bft nb inU ffr f s = (bft nb inU (fun _ => true) f s).filter ffr := by
  have e : (if ffr s = true then [s] else []) = [s].filter ffr := by
    by_cases h : ffr s = true <;> simp [h]
  unfold bft
  rw [e, bftLoop_ff nb inU ffr f [s] [s] [s]]
  simp

variable {nb inU ffr} in
theorem bft_fuel {n : Nat} (hb : Bounded nb n) {s : Nat} (hs : s < n) {f : Nat} (hf : n + 1 ≤ f) :
    bft nb inU ffr f s = bft nb inU ffr (n + 1) s := by
  rw [← (bft_halts (inU := inU) hb hs (Nat.le_refl _)).2 (f - (n + 1)) ffr,
    Nat.add_sub_cancel' hf]

variable {nb inU} in
theorem bft_lists {n : Nat} (hb : Bounded nb n) {s : Nat} (hs : s < n) {f : Nat} (hf : n + 1 ≤ f) :
    Lists nb inU s (bft nb inU (fun _ => true) f s) :=
  (bft_halts hb hs hf).1

end T
end EG
