import EG.Proofs.TravRec
/-
  EG.Proofs.TravIter — the explicit-stack depth-first loop: closed form and safety for any
  fuel; then `dftIter_sim`: the loop does what the recursive traversal does on reversed
  neighbour lists, in a number of iterations that is counted.  Order, exactness and fuel
  independence are all read off that one statement (`dftIterative_eq_reversed`).
-/
namespace EG
namespace T

variable (nb : Nat → List Nat) (inU : Nat → Bool) (ffr : Nat → Bool)

variable {nb inU ffr} in
theorem dftIterLoop_skip {f v : Nat} {st disc out : List Nat} (h : v ∈ disc ∨ inU v = false) :
    dftIterLoop nb inU ffr (f + 1) (v :: st) disc out = dftIterLoop nb inU ffr f st disc out := by
  rw [dftIterLoop]
  rcases h with h | h
  · simp [h]
  · simp [h]

variable {nb inU ffr} in
theorem dftIterLoop_push {f v : Nat} {st disc out : List Nat} (h1 : v ∉ disc)
    (h2 : inU v = true) :
    dftIterLoop nb inU ffr (f + 1) (v :: st) disc out =
      dftIterLoop nb inU ffr f ((nb v).reverse ++ st) (disc ++ [v])
        (if ffr v then out ++ [v] else out) := by
  rw [dftIterLoop]
  simp [h1, h2]

variable {nb inU ffr} in
theorem dftIterLoop_nil {f : Nat} {disc out : List Nat} :
    dftIterLoop nb inU ffr f [] disc out = out := by
  cases f <;> simp [dftIterLoop]

theorem dftIterLoop_eq (f : Nat) : ∀ (ffr : Nat → Bool) (st disc out : List Nat),
    dftIterLoop nb inU ffr f st disc out =
      out ++ (dftIterLoop nb inU (fun _ => true) f st disc []).filter ffr := by
  induction f with
  | zero => intros; simp [dftIterLoop]
  | succ f ih =>
    intro ffr st disc out
    cases st with
    | nil => simp [dftIterLoop_nil]
    | cons v st =>
      rcases skip_or_push inU v disc with h | ⟨h1, h2⟩
      · rw [dftIterLoop_skip h, dftIterLoop_skip h]
        exact ih ffr st disc out
      · rw [dftIterLoop_push h1 h2, dftIterLoop_push h1 h2, ih ffr,
          if_pos rfl, ih (fun _ => true) _ _ ([] ++ [v])]
        by_cases h3 : ffr v = true <;> simp [h3]

theorem dftIterLoop_ff (f : Nat) (st disc out : List Nat) :
    dftIterLoop nb inU ffr f st disc (out.filter ffr) =
      (dftIterLoop nb inU (fun _ => true) f st disc out).filter ffr := by
  rw [dftIterLoop_eq nb inU f ffr, dftIterLoop_eq nb inU f (fun _ => true) _ _ out]
  simp [List.filter_append]

theorem dftIterLoop_out (f : Nat) (st disc out : List Nat) :
    dftIterLoop nb inU ffr f st disc out = out ++ dftIterLoop nb inU ffr f st disc [] := by
  rw [dftIterLoop_eq nb inU f ffr, dftIterLoop_eq nb inU f ffr st disc []]; simp

/-- the loop invariant about reachability from `s`.  No lemma uses the structure: `dftIterLoop_sound`
    carries `streach` and `reach` as hypotheses, and exactness (what `closed` would give) is
    inherited from the recursive traversal (`dftIterative_lists`) -/
structure IInv2 (s : Nat) (st disc : List Nat) : Prop where
  streach : ∀ x ∈ st, inU x = true → Reach nb inU s x
  reach : ∀ x ∈ disc, Reach nb inU s x
  closed : ∀ x ∈ disc, ∀ y ∈ nb x, inU y = true → y ∈ disc ∨ y ∈ st
  head : (disc = [] ∧ st = [s]) ∨ disc.head? = some s

variable {nb inU ffr} in
theorem dftIterative_ff {f s : Nat} :
    dftIterative nb inU ffr f s = (dftIterative nb inU (fun _ => true) f s).filter ffr := by
  simpa [dftIterative] using dftIterLoop_ff nb inU ffr f [s] [] []

variable {nb inU} in
/-- run with `out := disc` and no filter, what the loop returns is the final discovered list -/
theorem dftIterLoop_sound {s : Nat} : ∀ f st disc, disc.Nodup → disc.head? = some s →
    (∀ x ∈ st, inU x = true → Reach nb inU s x) → (∀ x ∈ disc, Reach nb inU s x) →
    Sound nb inU s (dftIterLoop nb inU (fun _ => true) f st disc disc) := by
  intro f
  induction f with
  | zero => intro st disc nd hd _ r; exact ⟨nd, fun _ => hd, r⟩
  | succ f ih =>
    intro st disc nd hd sr r
    cases st with
    | nil => exact ⟨nd, fun _ => hd, r⟩
    | cons v st =>
      have sr' := fun x hx => sr x (List.mem_cons_of_mem _ hx)
      rcases skip_or_push inU v disc with c | ⟨h1, h2⟩
      · rw [dftIterLoop_skip c]
        exact ih _ _ nd hd sr' r
      · have hrv := sr v List.mem_cons_self h2
        rw [dftIterLoop_push h1 h2, if_pos rfl]
        refine ih _ _ (nodup_snoc nd h1) (by simp [List.head?_append, hd]) (fun x hx hxu => ?_)
          fun x hx => ?_
        · rcases List.mem_append.1 hx with hx | hx
          · exact Reach.step hrv (List.mem_reverse.1 hx) hxu
          · exact sr' x hx hxu
        · rcases List.mem_append.1 hx with hx | hx
          · exact r x hx
          · rw [List.mem_singleton.1 hx]; exact hrv

variable {nb inU} in
/-- only this loop tests `inU` on the start vertex itself (the others mark it before looking),
    hence `hsU` here and in everything derived from it -/
theorem dftIterative_sound {f s : Nat} (hsU : inU s = true) :
    Sound nb inU s (dftIterative nb inU (fun _ => true) f s) := by
  cases f with
  | zero => exact ⟨List.nodup_nil, fun h => absurd rfl h, by simp [dftIterative, dftIterLoop]⟩
  | succ f =>
    rw [dftIterative, dftIterLoop_push List.not_mem_nil hsU]
    exact dftIterLoop_sound f _ [s] (by simp) rfl
      (fun x hx hu => Reach.step .refl (List.mem_reverse.1 (by simpa using hx)) hu)
      (by intro x hx; rw [List.mem_singleton.1 hx]; exact .refl)

variable {nb} in
theorem Bounded.reverse {n : Nat} (hb : Bounded nb n) : Bounded (fun v => (nb v).reverse) n := by
  intro x hx y hy
  exact hb x hx y (by simpa using hy)

variable {nb inU} in
theorem Reach.reverse {s x : Nat} :
    Reach (fun v => (nb v).reverse) inU s x ↔ Reach nb inU s x := by
  constructor <;> intro h
  · induction h with
    | refl => exact .refl
    | step _ hy hu ih => exact .step ih (List.mem_reverse.1 hy) hu
  · induction h with
    | refl => exact .refl
    | step _ hy hu ih => exact .step ih (List.mem_reverse.2 hy) hu

/-- neighbour entries of the vertices of `l`: the pops they cause on the explicit stack -/
def cost (l : List Nat) : Nat := (l.map fun v => (nb v).length).sum

theorem cost_cons (v : Nat) (l : List Nat) : cost nb (v :: l) = (nb v).length + cost nb l := by
  simp [cost]

theorem cost_append (l m : List Nat) : cost nb (l ++ m) = cost nb l + cost nb m := by
  simp [cost]

variable {nb} in
theorem Good.cost_le {n : Nat} {l : List Nat} (h : Good n l) : cost nb l ≤ degSum nb n := by
  obtain ⟨l', hp, hs⟩ : l.Subperm (List.range n) := h.1.subperm (by intro y hy; simp [h.2 y hy])
  have : ∀ {a b : List Nat}, a.Sublist b → a.sum ≤ b.sum := fun h => by
    induction h with
    | slnil => exact Nat.le_refl _
    | cons _ _ ih => simp; omega
    | cons_cons _ _ ih => simp; omega
  exact Nat.le_trans (Nat.le_of_eq (hp.map _).sum_nat.symm) (this (hs.map _))

variable {nb inU ffr} in
/-- popping `v` (undiscovered, in the universe) from the stack and running until the stack is
    back to `rest` has the same effect on (discovered, listed) as the recursive call on `v`
    in the graph with reversed neighbour lists, and takes one iteration for `v` and one for every
    neighbour entry of what the call lists -/
theorem dftIter_sim {n : Nat} (hb : Bounded nb n) :
    ∀ f vis v, Good n vis → v < n → v ∉ vis → n ≤ vis.length + f →
      ∀ seg, dseg (fun v => (nb v).reverse) inU f vis v = seg → inU v = true →
      ∀ (out : List Nat) (F : Nat) (rest : List Nat),
        dftIterLoop nb inU ffr (F + cost nb seg + 1) (v :: rest) vis out =
          dftIterLoop nb inU ffr F rest (vis ++ seg) (out ++ seg.filter ffr) :=
  dseg_induct (nb := fun v => (nb v).reverse) (Bounded.reverse hb)
    (F := fun _ vis ws seg => ∀ (out : List Nat) (F : Nat) (rest : List Nat),
      dftIterLoop nb inU ffr (F + cost nb seg + ws.length) (ws ++ rest) vis out =
        dftIterLoop nb inU ffr F rest (vis ++ seg) (out ++ seg.filter ffr))
    (fun f vis v seg _ _ hm hF hu out F rest => by
      have := hF (if ffr v then out ++ [v] else out) F rest
      rw [List.length_reverse] at this
      rw [dftIterLoop_push hm hu, cost_cons, ← Nat.add_assoc, Nat.add_right_comm F, this]
      by_cases h : ffr v = true <;> simp [h])
    (fun _ _ _ _ _ => by simp [cost])
    (fun f vis w ws seg c ih out F rest => by
      rw [List.cons_append, List.length_cons, ← Nat.add_assoc, dftIterLoop_skip c]
      exact ih out F rest)
    (fun f vis w ws a b c _ hC hF out F rest => by
      have := hF (out ++ a.filter ffr) F rest
      rw [cost_append, List.cons_append, List.length_cons,
        show ∀ i j k l : Nat, i + (j + k) + (l + 1) = i + k + l + j + 1 by omega,
        hC c.1 out, this]
      simp [List.append_assoc])

variable {nb inU ffr} in
/-- with the fuel of C06 the explicit-stack traversal lists what the recursive one lists on the
    reversed neighbour lists: fuel independence and exactness are inherited -/
theorem dftIterative_eq_reversed {n : Nat} (hb : Bounded nb n) {s : Nat} (hs : s < n)
    (hsU : inU s = true) {f : Nat} (hf : n + degSum nb n + 2 ≤ f) :
    dftIterative nb inU ffr f s = dftRecursive (fun v => (nb v).reverse) inU ffr (n + 1) s := by
  have hg : Good n [] := ⟨List.nodup_nil, by simp⟩
  have hc := (hg.dseg (inU := inU) (Bounded.reverse hb) hs (by simp) (n + 1)).cost_le (nb := nb)
  have := dftIter_sim (ffr := ffr) hb (n + 1) [] s hg hs (by simp) (by simp) _ rfl hsU []
    (f - cost nb (dseg (fun v => (nb v).reverse) inU (n + 1) [] s) - 1) []
  rw [show ∀ a b : Nat, b + 1 ≤ a → a - b - 1 + b + 1 = a by omega, dftIterLoop_nil] at this
  · simpa [dftIterative, dftRecursive, dftRec_eq] using this
  · simp at hc; omega

variable {nb inU} in
theorem dftIter_eq_dftRec_reversed {n : Nat} (hb : Bounded nb n) (s : Nat) (hs : s < n)
    (hsU : inU s = true) :
    dftIterative nb inU ffr (n + degSum nb n + 2) s =
      dftRecursive (fun v => (nb v).reverse) inU ffr (n + 1) s :=
  dftIterative_eq_reversed hb hs hsU (Nat.le_refl _)

variable {nb inU ffr} in
theorem dftIterative_fuel {n : Nat} (hb : Bounded nb n) {s : Nat} (hs : s < n) {f : Nat}
    (hf : n + degSum nb n + 2 ≤ f) :
    dftIterative nb inU ffr f s = dftIterative nb inU ffr (n + degSum nb n + 2) s := by
  by_cases hsU : inU s = true
  · rw [dftIterative_eq_reversed hb hs hsU hf, dftIter_eq_dftRec_reversed ffr hb s hs hsU]
  · -- a start outside the universe is popped and dropped
    obtain ⟨f, rfl⟩ : ∃ f', f = f' + 1 := ⟨f - 1, by omega⟩
    simp [dftIterative, dftIterLoop_skip (Or.inr (by simpa using hsU)), dftIterLoop_nil]

variable {nb inU} in
theorem dftIterative_lists {n : Nat} (hb : Bounded nb n) {s : Nat} (hs : s < n)
    (hsU : inU s = true) {f : Nat} (hf : n + degSum nb n + 2 ≤ f) :
    Lists nb inU s (dftIterative nb inU (fun _ => true) f s) := by
  rw [dftIterative_eq_reversed hb hs hsU hf]
  obtain ⟨a, b, c⟩ := dftRecursive_lists (Bounded.reverse hb) hs (Nat.le_refl _)
  exact ⟨a, b, fun x => (c x).trans Reach.reverse⟩

end T
end EG
