import EG.TravOps
import EG.Proofs.TravOrder
import EG.Proofs.Search
/-
  EG.Proofs.TravOpsLemmas — helper lemmas connecting the world-level traversal / search entry
  points (EG.TravOps) with the pure loops of EG.Trav.
-/
namespace EG
namespace TO

variable (w : World) (F : Nat → LId → Option VId → Bool)

/-- `neighbors(v, dir, unk, via)` returns for every vertex and never contains None -/
def TotalAt (dir unk : Nat) (via : Option Nat) : Prop :=
  ∀ v, v < w.nV → ∃ l : List VId, M.neighborsPure w F v dir unk via = .ok (l.map some) ∧ ∀ y ∈ l, y < w.nV

/-- the neighbours of `v` as a list of vertices -/
def nbOf (dir unk : Nat) (via : Option Nat) (v : VId) : List VId :=
  match M.neighborsPure w F v dir unk via with
  | .ok l => l.filterMap id
  | .error _ => []

/-- membership test of the call: `uni is None or y in uni.vertices` -/
def memberOf (uni : Option VId) (y : VId) : Prop :=
  match uni with
  | none => True
  | some u => y ∈ w.members u

/-- `y` is reachable from `s` along links `neighbors()` follows, through members of the universe -/
inductive ReachW (uni : Option VId) (dir unk : Nat) (via : Option Nat) (s : VId) : VId → Prop
  | refl : ReachW uni dir unk via s s
  | step {x y : VId} : ReachW uni dir unk via s x → y ∈ nbOf w F dir unk via x → memberOf w uni y →
      ReachW uni dir unk via s y

theorem filterMap_id_map_some (l : List Nat) : (l.map some).filterMap id = l := by
  simp [List.filterMap_map]

/-- one unit per id below `m` and one per neighbour entry of those ids fit into one unit more
    than its degree for every id below `k` -/
theorem sum_succ_ge (f : Nat → Nat) {m k : Nat} (h : m ≤ k) :
    m + ((List.range m).map f).sum ≤ ((List.range k).map fun x => f x + 1).sum := by
  induction k generalizing m with
  | zero => simp [Nat.le_zero.1 h]
  | succ k ih =>
    rw [List.range_succ, List.map_append, List.sum_append]
    rcases Nat.lt_or_eq_of_le h with h | rfl
    · have := ih (Nat.le_of_lt_succ h); omega
    · have := ih (Nat.le_refl k)
      simp only [List.range_succ, List.map_append, List.sum_append, List.map_cons, List.map_nil,
        List.sum_cons, List.sum_nil] at this ⊢
      omega

theorem resolvedNb_of_ok {dir unk : Nat} {via : Option Nat} {x : Nat} {l : List Nat}
    (hx : x < w.nV) (hl : M.neighborsPure w F x dir unk via = .ok (l.map some)) :
    resolvedNb w F dir unk via x = l := by
  simp [resolvedNb, hx, hl, List.map_map, Function.comp_def]

theorem resolvedNb_bounded {dir unk : Nat} {via : Option Nat} (ht : TotalAt w F dir unk via) :
    T.Bounded (resolvedNb w F dir unk via) w.nV := by
  intro x hx y hy
  obtain ⟨l, hl, hlt⟩ := ht x hx
  rw [resolvedNb_of_ok w F hx hl] at hy
  exact hlt y hy

theorem resolvedNb_eq_nbOf {dir unk : Nat} {via : Option Nat} (ht : TotalAt w F dir unk via)
    {x : Nat} (hx : x < w.nV) : resolvedNb w F dir unk via x = nbOf w F dir unk via x := by
  obtain ⟨l, hl, _⟩ := ht x hx
  rw [resolvedNb_of_ok w F hx hl]
  simp only [nbOf, hl]
  exact (filterMap_id_map_some l).symm

theorem fuelFor_ge (nb : Nat → List Nat) : w.nV + T.degSum nb w.nV + 2 ≤ fuelFor w nb := by
  have := sum_succ_ge (fun x => (nb x).length) (m := w.nV) (k := 2 * w.nV + 2) (by omega)
  unfold fuelFor T.degSum
  omega

/-- the bound of `bft` and `dft_recursive`; `fuelFor_ge` is that of `dft_iterative` -/
theorem fuelFor_ge' (nb : Nat → List Nat) : w.nV + 1 ≤ fuelFor w nb := by
  have := fuelFor_ge w nb
  omega

theorem cutOutput_id (dir unk : Nat) (via : Option Nat) (l : List Nat) (h : ∀ x ∈ l, x < w.nV) :
    cutOutput w F dir unk via l = (l, none) := by
  induction l with
  | nil => rfl
  | cons a l ih =>
    have ha : ¬ a > w.nV := by have := h a (by simp); omega
    have := ih (fun x hx => h x (by simp [hx]))
    simp [cutOutput, ha, this]

/-- `cutOutput` in closed form: the listing up to the first pseudo-error id, and the exception
    that id stands for -/
theorem cutOutput_eq (dir unk : Nat) (via : Option Nat) (l : List Nat) :
    cutOutput w F dir unk via l = (l.takeWhile (· ≤ w.nV),
      (l.find? (· > w.nV)).map fun x => (errOf w F dir unk via (x - w.nV - 1)).getD .other) := by
  induction l with
  | nil => rfl
  | cons a l ih =>
    by_cases ha : a > w.nV
    · simp [cutOutput, ha]
    · simp [cutOutput, ha, ih, Nat.le_of_not_gt ha]

theorem inUni_lt (uni : Option VId) {y : Nat} (hy : y < w.nV) :
    inUni w uni y = true ↔ memberOf w uni y := by
  have h1 : ¬ y > w.nV := by omega
  cases uni with
  | none => simp [inUni, memberOf, h1]
  | some u => simp [inUni, memberOf, h1, hy]

theorem reach_iff_reachW (uni : Option VId) (start : VId) (dir unk : Nat) (via : Option Nat)
    (ht : TotalAt w F dir unk via) (hs : start < w.nV) (x : Nat) :
    T.Reach (resolvedNb w F dir unk via) (inUni w uni) start x ↔
      ReachW w F uni dir unk via start x := by
  have hb : T.Bounded (resolvedNb w F dir unk via) w.nV := resolvedNb_bounded w F ht
  constructor
  · intro h
    induction h with
    | refl => exact ReachW.refl
    | step hx hy hU ih =>
      have hxlt := hx.lt hb hs
      have hylt := hb _ hxlt _ hy
      rw [resolvedNb_eq_nbOf w F ht hxlt] at hy
      exact ReachW.step ih hy ((inUni_lt w uni hylt).1 hU)
  · intro h
    have key : T.Reach (resolvedNb w F dir unk via) (inUni w uni) start x ∧ x < w.nV := by
      induction h with
      | refl => exact ⟨T.Reach.refl, hs⟩
      | step hx hy hm ih =>
        obtain ⟨ih1, ih2⟩ := ih
        rw [← resolvedNb_eq_nbOf w F ht ih2] at hy
        have hylt := hb _ ih2 _ hy
        exact ⟨T.Reach.step ih1 hy ((inUni_lt w uni hylt).2 hm), hylt⟩
    exact key.1

theorem attrMatch_lt (attr val : Nat) {x : Nat} (hx : x < w.nV) :
    attrMatch w attr val x = hasAttrVal w attr val x := by
  have h1 : ¬ x > w.nV := by omega
  have h2 : ¬ x = w.nV := by omega
  simp [attrMatch, h1, h2]

section traversal

variable (ffr : Nat → Bool) (kind : TravKind) (uni : Option VId) (start : VId) (dir unk : Nat)
  (via : Option Nat)

/-- the listing of the pure loop of the given kind, before cutting -/
def pureOut : List Nat :=
  match kind with
  | .bft => T.bft (resolvedNb w F dir unk via) (inUni w uni) ffr
      (fuelFor w (resolvedNb w F dir unk via)) start
  | .dftr => T.dftRecursive (resolvedNb w F dir unk via) (inUni w uni) ffr
      (fuelFor w (resolvedNb w F dir unk via)) start
  | .dfti => T.dftIterative (resolvedNb w F dir unk via) (inUni w uni) ffr
      (fuelFor w (resolvedNb w F dir unk via)) start

theorem pureOut_filter :
    pureOut w F ffr kind uni start dir unk via =
      (pureOut w F (fun _ => true) kind uni start dir unk via).filter ffr := by
  cases kind
  · exact T.bft_ff
  · exact T.dftRecursive_ff
  · exact T.dftIterative_ff

/-- the two pre-flight tests shared by the entry points -/
def emptyUni : Bool :=
  match uni with | some u => (w.members u).isEmpty | none => false

def startOut : Bool :=
  match uni with | some u => !((w.members u).contains start) | none => false

theorem traverse_eq :
    traverse w F ffr kind uni start dir unk via =
      if emptyUni w uni then (if kind = .bft then ([], none) else ([], some .value))
      else if startOut w uni start then ([], some .value)
      else cutOutput w F dir unk via (pureOut w F ffr kind uni start dir unk via) := by
  cases kind <;> rfl

theorem guards_pass (hu : memberOf w uni start) :
    emptyUni w uni = false ∧ startOut w uni start = false := by
  cases uni with
  | none => exact ⟨rfl, rfl⟩
  | some u =>
    simp only [memberOf] at hu
    refine ⟨?_, by simpa [startOut] using hu⟩
    cases hm : w.members u with
    | nil => rw [hm] at hu; simp at hu
    | cons a l => simp [emptyUni, hm]

theorem traverse_eq_cut (hu : memberOf w uni start) :
    traverse w F ffr kind uni start dir unk via =
      cutOutput w F dir unk via (pureOut w F ffr kind uni start dir unk via) := by
  obtain ⟨g1, g2⟩ := guards_pass w uni start hu
  rw [traverse_eq, g1, g2]; rfl

theorem pureOut_exact (ht : TotalAt w F dir unk via) (hs : start < w.nV)
    (hu : memberOf w uni start) :
    T.Lists (resolvedNb w F dir unk via) (inUni w uni) start
      (pureOut w F (fun _ => true) kind uni start dir unk via) := by
  have hb := resolvedNb_bounded w F ht
  cases kind
  · exact T.bft_lists hb hs (fuelFor_ge' w _)
  · exact T.dftRecursive_lists hb hs (fuelFor_ge' w _)
  · exact T.dftIterative_lists hb hs ((inUni_lt w uni hs).2 hu) (fuelFor_ge w _)

theorem pureOut_lt (ht : TotalAt w F dir unk via) (hs : start < w.nV)
    (hu : memberOf w uni start) :
    ∀ x ∈ pureOut w F (fun _ => true) kind uni start dir unk via, x < w.nV := by
  intro x hx
  have h := ((pureOut_exact w F kind uni start dir unk via ht hs hu).2.2 x).1 hx
  exact h.lt (resolvedNb_bounded w F ht) hs

theorem traverse_eq_pure (ht : TotalAt w F dir unk via) (hs : start < w.nV)
    (hu : memberOf w uni start) :
    traverse w F ffr kind uni start dir unk via =
      ((pureOut w F (fun _ => true) kind uni start dir unk via).filter ffr, none) := by
  rw [traverse_eq_cut w F ffr kind uni start dir unk via hu, pureOut_filter]
  apply cutOutput_id
  intro x hx
  exact pureOut_lt w F kind uni start dir unk via ht hs hu x (List.mem_filter.1 hx).1

theorem traverse_true_eq_pure (ht : TotalAt w F dir unk via) (hs : start < w.nV)
    (hu : memberOf w uni start) :
    traverse w F (fun _ => true) kind uni start dir unk via =
      (pureOut w F (fun _ => true) kind uni start dir unk via, none) := by
  rw [traverse_eq_pure w F _ kind uni start dir unk via ht hs hu]
  simp

end traversal

def travOf : SearchKind → TravKind
  | .bfs => .bft
  | .dfsr => .dftr
  | .dfsi => .dfti

variable (kind : SearchKind) (uni : Option VId) (start : VId) (attr val : Nat)

def pureRes : Option Nat :=
  match kind with
  | .bfs => T.bfs (resolvedNb w F 0 2 none) (inUni w uni) (attrMatch w attr val)
      (fuelFor w (resolvedNb w F 0 2 none)) start
  | .dfsr => T.dfsRecursive (resolvedNb w F 0 2 none) (inUni w uni) (attrMatch w attr val)
      (fuelFor w (resolvedNb w F 0 2 none)) start
  | .dfsi => T.dfsIterative (resolvedNb w F 0 2 none) (inUni w uni) (attrMatch w attr val)
      (fuelFor w (resolvedNb w F 0 2 none)) start

/-- what a search answers for the result of its loop -/
def answer (r : Option Nat) : Err ⊕ Option Nat :=
  match r with
  | none => .inr none
  | some x =>
    if x > w.nV then .inl ((errOf w F 0 2 none (x - w.nV - 1)).getD .other) else .inr (some x)

theorem search_eq :
    search w F kind uni start attr val =
      if emptyUni w uni then (if kind = .bfs then .inr none else .inl .value)
      else if startOut w uni start then .inl .value
      else answer w F (pureRes w F kind uni start attr val) := by
  cases kind <;> rfl

/-- on a listing of vertex ids the extended test is the test of the attribute, and what is found
    is returned -/
theorem answer_find (l : List Nat) (hlt : ∀ x ∈ l, x < w.nV) :
    answer w F (l.find? (attrMatch w attr val)) = .inr (l.find? (hasAttrVal w attr val)) := by
  induction l with
  | nil => rfl
  | cons a l ih =>
    have ha := hlt a List.mem_cons_self
    rw [List.find?_cons, List.find?_cons, attrMatch_lt w attr val ha]
    cases hasAttrVal w attr val a
    · exact ih fun x hx => hlt x (List.mem_cons_of_mem _ hx)
    · exact if_neg (Nat.not_lt.2 (Nat.le_of_lt ha))

theorem search_eq_find (ht : TotalAt w F 0 2 none) (hs : start < w.nV) (hu : memberOf w uni start) :
    search w F kind uni start attr val =
      .inr ((traverse w F (fun _ => true) (travOf kind) uni start 0 2 none).1.find?
        (hasAttrVal w attr val)) := by
  have hres : pureRes w F kind uni start attr val =
      (pureOut w F (fun _ => true) (travOf kind) uni start 0 2 none).find? (attrMatch w attr val) := by
    have hb := resolvedNb_bounded w F ht
    cases kind
    · exact T.SearchAux.bfs_eq_find _ _ _ _ _
    · exact T.SearchAux.dfsRecursive_eq_find _ _ _ _ hb _ hs _ (fuelFor_ge' w _)
    · exact T.SearchAux.dfsIterative_eq_find _ _ _ _ _
  obtain ⟨g1, g2⟩ := guards_pass w uni start hu
  rw [search_eq, g1, g2, hres, traverse_true_eq_pure w F (travOf kind) uni start 0 2 none ht hs hu]
  exact answer_find w F attr val _ (pureOut_lt w F (travOf kind) uni start 0 2 none ht hs hu)
end TO
end EG
