import EG.Proofs.TravIter
/-
  EG.Proofs.TravOrder — helper lemmas for C07: naturality of the three loops (locality and
  renaming) and the BFS distance order.
-/
namespace EG
namespace T

variable (nb : Nat → List Nat) (inU : Nat → Bool) (ffr : Nat → Bool)

/-- `ρ` maps the graph `(nb, inU)` into `(nb', inU')` on a set `A` closed under the links a run
    follows (a run from inside `A` looks at nothing else).  `ρ = id`: two graphs that agree on
    `A`; `A` = everything: a graph rebuilt with fresh objects.  `inUEq` speaks of neighbours of `A`
    only: the one loop that tests a vertex it did not reach as a neighbour, the start on the
    explicit stack, asks for that equation about its stack (`dftIterLoop_map`) -/
structure Maps (A : Nat → Prop) (ρ : Nat → Nat) (nb nb' : Nat → List Nat) (inU inU' : Nat → Bool) :
    Prop where
  inj : Function.Injective ρ
  closed : ∀ x, A x → ∀ y ∈ nb x, inU y = true → A y
  nbEq : ∀ x, A x → nb' (ρ x) = (nb x).map ρ
  inUEq : ∀ x, A x → ∀ y ∈ nb x, inU' (ρ y) = inU y

section naturality
variable {A : Nat → Prop} {ρ : Nat → Nat} {nb nb' : Nat → List Nat} {inU inU' ffr ffr' : Nat → Bool}

theorem Maps.of_reach (s : Nat) (hnb : ∀ x, Reach nb inU s x → nb x = nb' x) :
    Maps (Reach nb inU s) id nb nb' inU inU :=
  ⟨fun _ _ h => h, fun _ hx _ hy hu => .step hx hy hu,
    fun x hx => by rw [List.map_id]; exact (hnb x hx).symm, fun _ _ _ _ => rfl⟩

theorem Maps.of_bounded {n : Nat} (hb : Bounded nb n) (hnb : ∀ x, x < n → nb x = nb' x)
    (hU : ∀ x, x < n → inU x = inU' x) : Maps (· < n) id nb nb' inU inU' :=
  ⟨fun _ _ h => h, fun x hx y hy _ => hb x hx y hy,
    fun x hx => by rw [List.map_id]; exact (hnb x hx).symm,
    fun x hx y hy => (hU y (hb x hx y hy)).symm⟩

theorem Maps.of_inj (hρ : Function.Injective ρ) (hnb : ∀ x, nb' (ρ x) = (nb x).map ρ)
    (hU : ∀ x, inU' (ρ x) = inU x) : Maps (fun _ => True) ρ nb nb' inU inU' :=
  ⟨hρ, fun _ _ _ _ _ => trivial, fun x _ => hnb x, fun _ _ y _ => hU y⟩

theorem bftChildren_map (hρ : Function.Injective ρ) (vs : List Nat) :
    ∀ vis, (∀ y ∈ vs, inU' (ρ y) = inU y) →
      bftChildren inU' (vis.map ρ) (vs.map ρ) = (bftChildren inU vis vs).map ρ := by
  induction vs with
  | nil => intro vis _; rfl
  | cons v vs ih =>
    intro vis h
    have ih' := fun vis => ih vis fun y hy => h y (List.mem_cons_of_mem _ hy)
    have := ih' (vis ++ [v])
    simp only [List.map_append, List.map_cons, List.map_nil] at this
    simp only [List.map_cons, bftChildren, h v List.mem_cons_self, List.mem_map_of_injective hρ,
      ih', this]
    split <;> rfl

theorem filter_map_of (hF : ∀ x, ffr' (ρ x) = ffr x) (l : List Nat) :
    (l.map ρ).filter ffr' = (l.filter ffr).map ρ := by
  rw [List.filter_map]
  congr 2
  funext x
  exact hF x

theorem bftLoop_map (H : Maps A ρ nb nb' inU inU') (hF : ∀ x, ffr' (ρ x) = ffr x) :
    ∀ (f : Nat) (vis q out : List Nat), (∀ x ∈ q, A x) →
      bftLoop nb' inU' ffr' f (vis.map ρ) (q.map ρ) (out.map ρ) =
        (bftLoop nb inU ffr f vis q out).map ρ := by
  intro f
  induction f with
  | zero => intro vis q out _; rfl
  | succ f ih =>
    intro vis q out hq
    cases q with
    | nil => rfl
    | cons u q =>
      have hu := hq u List.mem_cons_self
      rw [List.map_cons, bftLoop_cons, bftLoop_cons, H.nbEq u hu,
        bftChildren_map H.inj _ _ (H.inUEq u hu), filter_map_of hF,
        ← List.map_append, ← List.map_append, ← List.map_append]
      refine ih _ _ _ fun x hx => ?_
      rcases List.mem_append.1 hx with hx | hx
      · exact hq x (List.mem_cons_of_mem _ hx)
      · have := (mem_bftChildren _ _).1 hx
        exact H.closed u hu x this.1 this.2.1

theorem dseg_map (H : Maps A ρ nb nb' inU inU') (f : Nat) : ∀ (vis : List Nat) (v : Nat), A v →
    dseg nb' inU' f (vis.map ρ) (ρ v) = (dseg nb inU f vis v).map ρ := by
  induction f with
  | zero => intro vis v _; simp [dseg_zero]
  | succ f ih =>
    intro vis v hv
    have fold : ∀ (ws vis : List Nat), (∀ w ∈ ws, w ∈ nb v) →
        fseg nb' inU' f (vis.map ρ) (ws.map ρ) = (fseg nb inU f vis ws).map ρ := by
      intro ws
      induction ws with
      | nil => intro vis _; rfl
      | cons w ws ihw =>
        intro vis hws
        have hw := hws w List.mem_cons_self
        have ihw' := fun vis => ihw vis fun x hx => hws x (List.mem_cons_of_mem _ hx)
        simp only [List.map_cons, fseg_cons, H.inUEq v hv w hw, List.mem_map_of_injective H.inj]
        split
        · next c => rw [ih vis w (H.closed v hv w hw c.1), ← List.map_append, ihw', List.map_append]
        · exact ihw' vis
    have := fold (nb v) (vis ++ [v]) fun _ h => h
    simp only [List.map_append, List.map_cons, List.map_nil] at this
    rw [dseg_succ, dseg_succ, H.nbEq v hv, this, List.map_cons]

theorem dftIterLoop_map (H : Maps A ρ nb nb' inU inU') (hF : ∀ x, ffr' (ρ x) = ffr x) :
    ∀ (f : Nat) (st disc out : List Nat), (∀ x ∈ st, inU' (ρ x) = inU x ∧ (inU x = true → A x)) →
      dftIterLoop nb' inU' ffr' f (st.map ρ) (disc.map ρ) (out.map ρ) =
        (dftIterLoop nb inU ffr f st disc out).map ρ := by
  intro f
  induction f with
  | zero => intro st disc out _; rfl
  | succ f ih =>
    intro st disc out hst
    cases st with
    | nil => rfl
    | cons v st =>
      have hst' : ∀ x ∈ st, inU' (ρ x) = inU x ∧ (inU x = true → A x) :=
        fun x hx => hst x (List.mem_cons_of_mem _ hx)
      obtain ⟨e, hA⟩ := hst v List.mem_cons_self
      rw [List.map_cons]
      rcases skip_or_push inU v disc with c | ⟨c1, c2⟩
      · rw [dftIterLoop_skip c, dftIterLoop_skip
          (by rwa [e, List.mem_map_of_injective H.inj])]
        exact ih _ _ _ hst'
      · rw [dftIterLoop_push c1 c2, dftIterLoop_push
          (by rwa [List.mem_map_of_injective H.inj]) (e ▸ c2), H.nbEq v (hA c2), hF]
        have := ih ((nb v).reverse ++ st) (disc ++ [v]) (if ffr v = true then out ++ [v] else out)
          fun x hx => by
            rcases List.mem_append.1 hx with hx | hx
            · have hx := List.mem_reverse.1 hx
              exact ⟨H.inUEq v (hA c2) x hx, H.closed v (hA c2) x hx⟩
            · exact hst' x hx
        simp only [List.map_append, List.map_reverse, List.map_cons, List.map_nil,
          apply_ite (List.map ρ)] at this
        exact this

theorem bftLoop_local (H : Maps A id nb nb' inU inU') (ffr : Nat → Bool) (f : Nat)
    (vis q out : List Nat) (hq : ∀ x ∈ q, A x) :
    bftLoop nb inU ffr f vis q out = bftLoop nb' inU' ffr f vis q out := by
  simpa only [List.map_id] using (bftLoop_map H (ffr := ffr) (fun _ => rfl) f vis q out hq).symm

theorem dftRec_local (H : Maps A id nb nb' inU inU') (ffr : Nat → Bool) (f : Nat)
    (st : List Nat × List Nat) (v : Nat) (hv : A v) :
    dftRec nb inU ffr f st v = dftRec nb' inU' ffr f st v := by
  have := dseg_map H f st.1 v hv
  simp only [List.map_id, id] at this
  rw [show st = (st.1, st.2) from rfl, dftRec_eq, dftRec_eq, this]

end naturality

section congr

variable {nb inU} (nb' : Nat → List Nat) {s : Nat}

theorem bftLoop_congr (hnb : ∀ x, Reach nb inU s x → nb x = nb' x) :
    ∀ (f : Nat) (vis q out : List Nat), (∀ x ∈ q, Reach nb inU s x) →
      bftLoop nb inU ffr f vis q out = bftLoop nb' inU ffr f vis q out :=
  bftLoop_local (Maps.of_reach s hnb) ffr

theorem dftRec_congr (hnb : ∀ x, Reach nb inU s x → nb x = nb' x) :
    ∀ (f : Nat) (st : List Nat × List Nat) (v : Nat), Reach nb inU s v →
      dftRec nb inU ffr f st v = dftRec nb' inU ffr f st v :=
  dftRec_local (Maps.of_reach s hnb) ffr

theorem dftIterLoop_congr (hnb : ∀ x, Reach nb inU s x → nb x = nb' x) :
    ∀ (f : Nat) (st disc out : List Nat), (∀ x ∈ st, inU x = true → Reach nb inU s x) →
      dftIterLoop nb inU ffr f st disc out = dftIterLoop nb' inU ffr f st disc out := by
  intro f st disc out hst
  have := dftIterLoop_map (Maps.of_reach s hnb) (ffr := ffr) (fun _ => rfl) f st disc out
    fun x hx => ⟨rfl, hst x hx⟩
  simpa only [List.map_id] using this.symm

end congr

section dist

variable {nb inU}

theorem ReachIn.mono {s k x : Nat} (h : ReachIn nb inU s k x) :
    ∀ k', k ≤ k' → ReachIn nb inU s k' x := by
  induction h with
  | refl k => intro k' _; exact .refl k'
  | step _ hy hu ih =>
    intro k' hk
    cases k' with
    | zero => omega
    | succ k' => exact .step (ih k' (by omega)) hy hu

theorem exists_min (P : Nat → Prop) (h : ∃ k, P k) : ∃ k, P k ∧ ∀ j, j < k → ¬ P j := by
  obtain ⟨k, hk⟩ := h
  induction k using Nat.strongRecOn with
  | ind k ih =>
    by_cases c : ∃ j, j < k ∧ P j
    · obtain ⟨j, hj, hp⟩ := c
      exact ih j hj hp
    · exact ⟨k, hk, fun j hj hp => c ⟨j, hj, hp⟩⟩

variable (nb inU) in
/-- hop distance from `s` (least `k` with `ReachIn s k x`; 0 for unreachable `x`) -/
noncomputable def hopDist (s x : Nat) : Nat :=
  open Classical in
  if h : ∃ k, ReachIn nb inU s k x then Classical.choose (exists_min _ h) else 0

theorem hopDist_spec {s x : Nat} (h : ∃ k, ReachIn nb inU s k x) :
    ReachIn nb inU s (hopDist nb inU s x) x ∧
      ∀ j, j < hopDist nb inU s x → ¬ ReachIn nb inU s j x := by
  unfold hopDist
  rw [dif_pos h]
  exact Classical.choose_spec (exists_min _ h)

theorem hopDist_le {s k x : Nat} (h : ReachIn nb inU s k x) : hopDist nb inU s x ≤ k :=
  Nat.le_of_not_lt fun c => (hopDist_spec ⟨k, h⟩).2 k c h

variable (nb inU) in
/-- the distance part of the BFS loop invariant (`ffr` = everything, so listing = `vis`) -/
structure DInv (s : Nat) (vis q : List Nat) : Prop where
  suffix : ∃ done, vis = done ++ q
  sorted : vis.Pairwise (fun a b => hopDist nb inU s a ≤ hopDist nb inU s b)
  near : ∀ u, q.head? = some u → ∀ x ∈ vis, hopDist nb inU s x ≤ hopDist nb inU s u + 1
  closed : ∀ x ∈ vis, x ∈ q ∨ ∀ y ∈ nb x, inU y = true → y ∈ vis
  reach : ∀ x ∈ vis, ∃ k, ReachIn nb inU s k x
  start : s ∈ vis

theorem DInv.init (s : Nat) : DInv nb inU s [s] [s] :=
  ⟨⟨[], rfl⟩, by simp, fun u hu x hx => by simp at hu hx; subst hu; subst hx; omega,
    fun x hx => Or.inl hx, fun x hx => by simp at hx; subst hx; exact ⟨0, .refl 0⟩, by simp⟩

theorem DInv.head_le {s : Nat} {vis q : List Nat} {u : Nat} (h : DInv nb inU s vis (u :: q)) :
    ∀ x ∈ q, hopDist nb inU s u ≤ hopDist nb inU s x := by
  obtain ⟨done, e⟩ := h.suffix
  have := h.sorted
  rw [e] at this
  exact (List.pairwise_cons.1 (List.pairwise_append.1 this).2.1).1

theorem DInv.low_mem {s : Nat} {vis q : List Nat} {u : Nat} (h : DInv nb inU s vis (u :: q)) :
    ∀ k z, ReachIn nb inU s k z → k ≤ hopDist nb inU s u → z ∈ vis := by
  intro k z hz
  induction hz with
  | refl k => intro _; exact h.start
  | @step k x y hx hy hu ih =>
    intro hk
    have hxv := ih (by omega)
    have hdx : hopDist nb inU s x ≤ k := hopDist_le hx
    rcases h.closed x hxv with c | c
    · simp only [List.mem_cons] at c
      rcases c with rfl | c
      · omega
      · have := h.head_le x c
        omega
    · exact c y hy hu

theorem DInv.child_dist {s : Nat} {vis q : List Nat} {u : Nat} (h : DInv nb inU s vis (u :: q))
    (hu : u ∈ vis) {y : Nat} (hy : y ∈ nb u) (hyu : inU y = true) (hyv : y ∉ vis) :
    hopDist nb inU s y = hopDist nb inU s u + 1 := by
  have hru := (hopDist_spec (h.reach u hu)).1
  have hry : ReachIn nb inU s (hopDist nb inU s u + 1) y := .step hru hy hyu
  have h1 := hopDist_le hry
  by_cases c : hopDist nb inU s y ≤ hopDist nb inU s u
  · exact absurd (h.low_mem _ y (hopDist_spec ⟨_, hry⟩).1 c) hyv
  · omega

theorem DInv.step {s : Nat} {vis q : List Nat} {u : Nat} (h : DInv nb inU s vis (u :: q)) :
    DInv nb inU s (vis ++ bftChildren inU vis (nb u)) (q ++ bftChildren inU vis (nb u)) := by
  obtain ⟨done, e⟩ := h.suffix
  have huv : u ∈ vis := by rw [e]; simp
  have hm := fun y => (mem_bftChildren (inU := inU) (x := y) (nb u) vis).1
  have hd : ∀ y ∈ bftChildren inU vis (nb u), hopDist nb inU s y = hopDist nb inU s u + 1 :=
    fun y hy => h.child_dist huv (hm y hy).1 (hm y hy).2.1 (hm y hy).2.2
  have hnear := h.near u rfl
  refine ⟨⟨done ++ [u], by rw [e]; simp⟩, ?_, ?_, ?_, ?_, List.mem_append_left _ h.start⟩
  · rw [List.pairwise_append]
    refine ⟨h.sorted, List.pairwise_of_forall_mem_list ?_, ?_⟩
    · intro x hx y hy; rw [hd x hx, hd y hy]; exact Nat.le_refl _
    · intro x hx y hy; rw [hd y hy]; exact hnear x hx
  · intro u' hu' x hx
    have hu'd : hopDist nb inU s u ≤ hopDist nb inU s u' := by
      rcases List.mem_append.1 (List.mem_of_head? hu') with m | m
      · exact h.head_le u' m
      · rw [hd u' m]; omega
    simp only [List.mem_append] at hx
    rcases hx with hx | hx
    · have := hnear x hx; omega
    · rw [hd x hx]; omega
  · exact bft_closed_step h.closed
  · intro x hx
    simp only [List.mem_append] at hx
    rcases hx with hx | hx
    · exact h.reach x hx
    · exact ⟨_, .step (hopDist_spec (h.reach u huv)).1 (hm x hx).1 (hm x hx).2.1⟩

theorem bft_monotone_distance (s f : Nat) :
    ∃ d : Nat → Nat,
      (∀ x ∈ bft nb inU (fun _ => true) f s,
        ReachIn nb inU s (d x) x ∧ ∀ k, k < d x → ¬ ReachIn nb inU s k x) ∧
      (bft nb inU (fun _ => true) f s).Pairwise (fun a b => d a ≤ d b) := by
  obtain ⟨_, _, h, _⟩ :=
    bftLoop_rule (I := fun _ => DInv nb inU s) (fun _ _ _ _ h => h.step) f [s] [s] (DInv.init s)
  simp only [bft, if_true]
  exact ⟨hopDist nb inU s, fun x hx => hopDist_spec (h.reach x hx), h.sorted⟩

end dist

end T
end EG

