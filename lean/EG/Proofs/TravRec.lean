import EG.Proofs.TravCore
/-
  EG.Proofs.TravRec — the recursive depth-first traversal through `dseg` / `fseg`, what a call
  resp. the loop over neighbours appends to the visited list, defined by their own recursion;
  `dftRec_eq` says that the model computes them (and that `out` and `ffr` factor out).
  `dseg_safe` holds for any fuel and any graph, `dseg_induct` is the induction principle for
  everything that needs "the fuel suffices" (its cases speak of the listed segments as lists, so
  that no user unfolds `dseg` or `fseg`); the segment theorem `dseg_iff` / `dftRec_segment`, fuel
  independence and exactness follow.
-/
namespace EG
namespace T

variable (nb : Nat → List Nat) (inU : Nat → Bool) (ffr : Nat → Bool)

/-- the body of the `for w in neighbors(v)` loop of `_dft_recur`, its two tests as one -/
def dftStep (f : Nat) : List Nat × List Nat → Nat → List Nat × List Nat :=
  fun s w => if inU w = true ∧ w ∉ s.1 then dftRec nb inU ffr f s w else s

theorem dftRec_zero (s : List Nat × List Nat) (v : Nat) : dftRec nb inU ffr 0 s v = s := by
  rw [dftRec]

theorem dftRec_succ (f : Nat) (s : List Nat × List Nat) (v : Nat) :
    dftRec nb inU ffr (f + 1) s v =
      (nb v).foldl (dftStep nb inU ffr f) (s.1 ++ [v], if ffr v then s.2 ++ [v] else s.2) := by
  rw [dftRec]
  congr 1
  funext s w
  by_cases h1 : inU w = true <;> by_cases h2 : w ∈ s.1 <;> simp [dftStep, h1, h2]

/-- `dftRec_succ` with the loop body written out, as C07 states it -/
theorem dftRec_unfold (s : List Nat × List Nat) (v f : Nat) :
    dftRec nb inU ffr (f + 1) s v =
      (nb v).foldl
        (fun s w => if inU w = true ∧ w ∉ s.1 then dftRec nb inU ffr f s w else s)
        (s.1 ++ [v], if ffr v then s.2 ++ [v] else s.2) :=
  dftRec_succ nb inU ffr f s v

/-- the loop over the neighbours `ws` of calls `call`: what it appends to the visited list -/
def fsegOf (call : List Nat → Nat → List Nat) : List Nat → List Nat → List Nat
  | _, [] => []
  | vis, w :: ws =>
    if inU w = true ∧ w ∉ vis then call vis w ++ fsegOf call (vis ++ call vis w) ws
    else fsegOf call vis ws

/-- what a call on `v` appends to the visited list `vis` (and, unfiltered, to the listing):
    the recursive traversal without its state -/
def dseg : Nat → List Nat → Nat → List Nat
  | 0, _, _ => []
  | f+1, vis, v => v :: fsegOf inU (dseg f) (vis ++ [v]) (nb v)

/-- what the `for w in ws` loop of calls appends -/
def fseg (f : Nat) : List Nat → List Nat → List Nat := fsegOf inU (dseg nb inU f)

theorem dseg_zero (vis : List Nat) (v : Nat) : dseg nb inU 0 vis v = [] := rfl

theorem dseg_succ (f : Nat) (vis : List Nat) (v : Nat) :
    dseg nb inU (f + 1) vis v = v :: fseg nb inU f (vis ++ [v]) (nb v) := rfl

theorem fseg_cons (f : Nat) (vis : List Nat) (w : Nat) (ws : List Nat) :
    fseg nb inU f vis (w :: ws) =
      (if inU w = true ∧ w ∉ vis then
        dseg nb inU f vis w ++ fseg nb inU f (vis ++ dseg nb inU f vis w) ws
      else fseg nb inU f vis ws) := rfl

theorem dftFold_eq_of (f : Nat) (hrec : ∀ (ffr : Nat → Bool) (vis out : List Nat) (v : Nat),
      dftRec nb inU ffr f (vis, out) v =
        (vis ++ dseg nb inU f vis v, out ++ (dseg nb inU f vis v).filter ffr))
    (ffr : Nat → Bool) (ws : List Nat) : ∀ (vis out : List Nat),
    ws.foldl (dftStep nb inU ffr f) (vis, out) =
      (vis ++ fseg nb inU f vis ws, out ++ (fseg nb inU f vis ws).filter ffr) := by
  induction ws with
  | nil => intros; simp [fseg, fsegOf]
  | cons w ws ih =>
    intro vis out
    rw [List.foldl_cons, fseg_cons]
    by_cases c : inU w = true ∧ w ∉ vis
    · simp [dftStep, c, hrec, ih, List.filter_append]
    · simp [dftStep, c, ih]

theorem dftRec_eq (f : Nat) : ∀ (ffr : Nat → Bool) (vis out : List Nat) (v : Nat),
    dftRec nb inU ffr f (vis, out) v =
      (vis ++ dseg nb inU f vis v, out ++ (dseg nb inU f vis v).filter ffr) := by
  induction f with
  | zero => intros; simp [dseg_zero, dftRec_zero]
  | succ f ih =>
    intro ffr vis out v
    rw [dftRec_succ, dseg_succ]
    by_cases h : ffr v = true <;> simp [h, dftFold_eq_of nb inU f ih]

section rec
variable {nb inU}

theorem dseg_safe (f : Nat) : ∀ (vis : List Nat) (v : Nat), vis.Nodup → v ∉ vis →
    (vis ++ dseg nb inU f vis v).Nodup ∧
    ∀ y ∈ dseg nb inU f vis v, ReachAvoiding nb inU vis v y := by
  induction f with
  | zero => intro vis v h _; simpa [dseg_zero] using h
  | succ f ih =>
    intro vis v hnd hv
    have hvv : ReachAvoiding nb inU vis v v := .refl hv
    have fold : ∀ (ws vis' : List Nat), (∀ w ∈ ws, w ∈ nb v) → vis'.Nodup → (∀ x ∈ vis, x ∈ vis') →
        (vis' ++ fseg nb inU f vis' ws).Nodup ∧
        ∀ y ∈ fseg nb inU f vis' ws, ReachAvoiding nb inU vis v y := by
      intro ws
      induction ws with
      | nil => intro vis' _ h _; simpa [fseg, fsegOf] using h
      | cons w ws ihw =>
        intro vis' hws hnd' hsub
        have hws' : ∀ x ∈ ws, x ∈ nb v := fun x hx => hws x (by simp [hx])
        rw [fseg_cons]
        split
        · rename_i c
          obtain ⟨a, b⟩ := ih vis' w hnd' c.2
          obtain ⟨a', b'⟩ := ihw _ hws' a (fun x hx => List.mem_append_left _ (hsub x hx))
          have hw : ReachAvoiding nb inU vis v w :=
            .step hvv (hws w (by simp)) c.1 (fun h => c.2 (hsub _ h))
          refine ⟨by simpa [List.append_assoc] using a', fun y hy => ?_⟩
          rcases List.mem_append.1 hy with hy | hy
          · exact hw.trans ((b y hy).mono hsub)
          · exact b' y hy
        · exact ihw vis' hws' hnd' hsub
    obtain ⟨a, b⟩ := fold (nb v) (vis ++ [v]) (fun _ h => h) (nodup_snoc hnd hv)
      (fun x hx => List.mem_append_left _ hx)
    rw [dseg_succ]
    refine ⟨by simpa [List.append_assoc] using a, fun y hy => ?_⟩
    rcases List.mem_cons.1 hy with rfl | hy
    · exact hvv
    · exact b y hy

theorem Good.dseg {n : Nat} (hb : Bounded nb n) {vis : List Nat} (hg : Good n vis) {w : Nat}
    (hw : w < n) (hm : w ∉ vis) (f : Nat) : Good n (vis ++ dseg nb inU f vis w) := by
  obtain ⟨a, b⟩ := dseg_safe (nb := nb) (inU := inU) f vis w hg.1 hm
  refine ⟨a, fun y hy => ?_⟩
  rcases List.mem_append.1 hy with hy | hy
  · exact hg.2 y hy
  · exact (reach_of_reachAvoiding (b y hy)).lt hb hw

/-- induction principle for statements about a call whose fuel suffices (`n ≤ |vis| + f` with
    `vis` Good): `C` is the claim about a call and the segment it lists, `F` the claim about the
    loop over neighbours and what it lists; Good and the fuel bound are threaded here, once, and
    the cases speak of the segments as lists, not of `dseg` / `fseg` -/
theorem dseg_induct {n : Nat} (hb : Bounded nb n) {C : Nat → List Nat → Nat → List Nat → Prop}
    {F : Nat → List Nat → List Nat → List Nat → Prop}
    (call : ∀ f vis v seg, Good n vis → v < n → v ∉ vis → F f (vis ++ [v]) (nb v) seg →
      C (f + 1) vis v (v :: seg))
    (nil : ∀ f vis, F f vis [] [])
    (skip : ∀ f vis w ws seg, w ∈ vis ∨ inU w = false → F f vis ws seg → F f vis (w :: ws) seg)
    (rec : ∀ f vis w ws a b, inU w = true ∧ w ∉ vis → w ∈ a → C f vis w a →
      F f (vis ++ a) ws b → F f vis (w :: ws) (a ++ b)) :
    ∀ f vis v, Good n vis → v < n → v ∉ vis → n ≤ vis.length + f →
      ∀ seg, dseg nb inU f vis v = seg → C f vis v seg := by
  intro f
  induction f with
  | zero => intro vis v hg hv hm hf; obtain ⟨_, h⟩ := fuel_pos hg hv hm hf; cases h
  | succ f ih =>
    intro vis v hg hv hm hf _ e
    have fold : ∀ ws vis, (∀ w ∈ ws, w < n) → Good n vis → n ≤ vis.length + f →
        F f vis ws (fseg nb inU f vis ws) := by
      intro ws
      induction ws with
      | nil => intros; exact nil f _
      | cons w ws ihw =>
        intro vis hlt hg hf
        have hw := hlt w (by simp)
        have hlt' : ∀ x ∈ ws, x < n := fun x hx => hlt x (by simp [hx])
        rw [fseg_cons]
        split
        · next c =>
          obtain ⟨f, rfl⟩ := fuel_pos hg hw c.2 hf
          exact rec _ vis w ws _ _ c (by simp [dseg_succ]) (ih vis w hg hw c.2 hf _ rfl)
            (ihw _ hlt' (hg.dseg hb hw c.2 _) (by simp; omega))
        · next c =>
          exact skip f vis w ws _ ((skip_or_push inU w vis).resolve_right fun h => c ⟨h.2, h.1⟩)
            (ihw vis hlt' hg hf)
    rw [← e, dseg_succ]
    exact call f vis v _ hg hv hm (fold (nb v) _ (hb v hv) (hg.snoc hv hm) (by simp; omega))

theorem dseg_fuel {n : Nat} (hb : Bounded nb n) : ∀ f vis v, Good n vis → v < n → v ∉ vis →
    n ≤ vis.length + f → ∀ seg, dseg nb inU f vis v = seg →
    ∀ f', n ≤ vis.length + f' → dseg nb inU f' vis v = seg :=
  dseg_induct hb
    (F := fun _ vis ws seg => ∀ f', n ≤ vis.length + f' → fseg nb inU f' vis ws = seg)
    (fun f vis v seg hg hv hm hF f' hf' => by
      obtain ⟨f', rfl⟩ := fuel_pos hg hv hm hf'
      rw [dseg_succ, hF f' (by simp; omega)])
    (fun _ _ _ _ => rfl)
    (fun f vis w ws seg c ih f' hf' => by
      rw [fseg_cons, if_neg (by rcases c with c | c <;> simp [c]), ih f' hf'])
    (fun f vis w ws a b c _ hC hF f' hf' => by
      rw [fseg_cons, if_pos c, hC f' hf', hF f' (by simp; omega)])

theorem dseg_closed {n : Nat} (hb : Bounded nb n) : ∀ f vis v, Good n vis → v < n → v ∉ vis →
    n ≤ vis.length + f → ∀ seg, dseg nb inU f vis v = seg →
    ∀ y ∈ seg, ∀ z ∈ nb y, inU z = true → z ∈ vis ++ seg :=
  dseg_induct hb
    (F := fun _ vis ws seg => (∀ w ∈ ws, inU w = true → w ∈ vis ++ seg) ∧
      ∀ y ∈ seg, ∀ z ∈ nb y, inU z = true → z ∈ vis ++ seg)
    (fun f vis v seg _ _ _ hF y hy z hz hu => by
      rcases List.mem_cons.1 hy with rfl | hy
      · simpa using hF.1 z hz hu
      · simpa using hF.2 y hy z hz hu)
    (fun _ _ => by simp)
    (fun f vis w ws seg c ih => by
      refine ⟨fun x hx hu => ?_, ih.2⟩
      rcases List.mem_cons.1 hx with rfl | hx
      · exact List.mem_append_left _ (c.resolve_right (by simp [hu]))
      · exact ih.1 x hx hu)
    (fun f vis w ws a b c hw hC hF => by
      refine ⟨fun x hx hu => ?_, fun y hy z hz hu => ?_⟩
      · rcases List.mem_cons.1 hx with rfl | hx
        · simp [hw]
        · simpa using hF.1 x hx hu
      · rcases List.mem_append.1 hy with hy | hy
        · have := hC y hy z hz hu
          simp only [List.mem_append] at this ⊢; tauto
        · simpa using hF.2 y hy z hz hu)

theorem dseg_iff {n : Nat} (hb : Bounded nb n) {f : Nat} {vis : List Nat} {v : Nat}
    (hg : Good n vis) (hv : v < n) (hm : v ∉ vis) (hf : n ≤ vis.length + f) (y : Nat) :
    y ∈ dseg nb inU f vis v ↔ ReachAvoiding nb inU vis v y := by
  refine ⟨(dseg_safe f vis v hg.1 hm).2 y, fun hy => ?_⟩
  obtain ⟨f, rfl⟩ := fuel_pos hg hv hm hf
  have := ReachAvoiding.mem_of_closed (vis' := vis ++ dseg nb inU (f + 1) vis v) (v := v)
    (by simp [dseg_succ])
    (fun y hy hn => dseg_closed hb _ _ _ hg hv hm hf _ rfl y
      ((List.mem_append.1 hy).resolve_left hn))
    y hy
  exact (List.mem_append.1 this.1).resolve_left this.2

end rec

variable {nb inU} in
theorem dftRec_segment {n : Nat} (hb : Bounded nb n) (vis out : List Nat) (v f : Nat)
    (hv : v < n) (hnv : v ∉ vis) (hvis : vis.Nodup) (hlt : ∀ y ∈ vis, y < n) (hf : n + 1 ≤ f) :
    ∃ seg : List Nat,
      dftRec nb inU (fun _ => true) f (vis, out) v = (vis ++ seg, out ++ seg) ∧
      seg.head? = some v ∧ seg.Nodup ∧
      ∀ y, y ∈ seg ↔ ReachAvoiding nb inU vis v y := by
  obtain ⟨f, rfl⟩ : ∃ f', f = f' + 1 := ⟨f - 1, by omega⟩
  exact ⟨_, by rw [dftRec_eq, List.filter_true], by simp [dseg_succ],
    (List.nodup_append.1 (dseg_safe (f + 1) vis v hvis hnv).1).2.1,
    dseg_iff hb ⟨hvis, hlt⟩ hv hnv (by omega)⟩

variable {nb} in
theorem dftRec_fuel {n : Nat} (hb : Bounded nb n) : ∀ (f f' : Nat) (s : List Nat × List Nat)
    (v : Nat), Good n s.1 → v < n → v ∉ s.1 → n ≤ s.1.length + f → n ≤ s.1.length + f' →
    dftRec nb inU ffr f s v = dftRec nb inU ffr f' s v := by
  intro f f' s v hg hv hm hf hf'
  rw [show s = (s.1, s.2) from rfl, dftRec_eq, dftRec_eq,
    dseg_fuel hb f s.1 v hg hv hm hf _ rfl f' hf']

/-- post-condition of a recursive call / of a fold of recursive calls, relative to the
    visited list `vis` at entry; `P` is an invariant property of visited vertices.  The proofs go
    through `dseg_safe` / `dseg_induct` instead; only `DPost.length_le` speaks of it -/
structure DPost (n : Nat) (P : Nat → Prop) (vis vis' : List Nat) : Prop where
  ext : ∃ more, vis' = vis ++ more
  good : Good n vis'
  closed : ∀ y ∈ vis', y ∉ vis → ∀ z ∈ nb y, inU z = true → z ∈ vis'
  inv : ∀ y ∈ vis', P y

variable {nb inU} in
theorem DPost.length_le {n : Nat} {P : Nat → Prop} {a b : List Nat}
    (h : DPost nb inU n P a b) : a.length ≤ b.length := by
  obtain ⟨m, e⟩ := h.ext
  rw [e]; simp

variable {nb inU ffr} in
theorem dftRecursive_ff {f s : Nat} :
    dftRecursive nb inU ffr f s = (dftRecursive nb inU (fun _ => true) f s).filter ffr := by
  simp [dftRecursive, dftRec_eq]

variable {nb inU ffr} in
theorem dftRecursive_fuel {n : Nat} (hb : Bounded nb n) {s : Nat} (hs : s < n) {f : Nat}
    (hf : n + 1 ≤ f) : dftRecursive nb inU ffr f s = dftRecursive nb inU ffr (n + 1) s := by
  unfold dftRecursive
  rw [dftRec_fuel inU ffr hb f (n + 1) ([], []) s ⟨by simp, by simp⟩ hs (by simp) (by simp; omega)
    (by simp)]

variable {nb inU} in
theorem dftRecursive_lists {n : Nat} (hb : Bounded nb n) {s : Nat} (hs : s < n) {f : Nat}
    (hf : n + 1 ≤ f) : Lists nb inU s (dftRecursive nb inU (fun _ => true) f s) := by
  obtain ⟨seg, e, hd, nd, m⟩ := dftRec_segment (inU := inU) hb [] [] s f hs (by simp)
    List.nodup_nil (by simp) hf
  rw [dftRecursive, e]
  exact ⟨nd, hd, fun x => (m x).trans reachAvoiding_nil⟩

variable {nb inU} in
theorem dftRecursive_sound {f s : Nat} :
    Sound nb inU s (dftRecursive nb inU (fun _ => true) f s) := by
  obtain ⟨a, b⟩ := dseg_safe (nb := nb) (inU := inU) f [] s List.nodup_nil (by simp)
  rw [show dftRecursive nb inU (fun _ => true) f s = dseg nb inU f [] s by
    simp [dftRecursive, dftRec_eq]]
  refine ⟨by simpa using a, ?_, fun x hx => reach_of_reachAvoiding (b x hx)⟩
  cases f with
  | zero => exact fun h => absurd (dseg_zero nb inU [] s) h
  | succ f => exact fun _ => by simp [dseg_succ]

end T
end EG
