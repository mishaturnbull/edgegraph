import EG.StepX
import EG.Proofs.TravWorldLemmas
/-
  EG.Proofs.TravStateLemmas — the state-threading loops of EG.TravState simulate the pure loops
  of EG.Trav under any state invariant that makes `nbS` answer like `nb` (`Sim`): each is the pure
  loop with a state carried along, so its result `Tracks` the pure one, a relation that `if`
  (`ite_rel`) and `foldl` (`foldl_rel`) respect.  The world-level instance and the entry points
  (`entry_spec`), `basic_render` likewise, and histories over the extended alphabet.
-/
namespace EG

/-- `if` respects a relation between two computations that branch on the same test -/
theorem ite_rel {α β : Type} (R : α → β → Prop) (c : Prop) [Decidable c] {a a' : α} {b b' : β}
    (h : R a b) (h' : R a' b') : R (if c then a else a') (if c then b else b') := by
  split
  · exact h
  · exact h'

namespace TS

section generic

variable {σ : Type} (nbS : σ → Nat → σ × List Nat) (nb : Nat → List Nat) (inU : Nat → Bool)
  (ffr : Nat → Bool) (I : σ → Prop)

/-- a state-threading result `a` carries the pure result `b` and a state that satisfies `I` -/
def Tracks {α : Type} (a : σ × α) (b : α) : Prop := a.2 = b ∧ I a.1

/-- `nbS` answers like `nb` and keeps the invariant -/
def Sim : Prop := ∀ s x, I s → Tracks I (nbS s x) (nb x)

variable {nbS nb I}

theorem bftLoop_sim (H : Sim nbS nb I) (f : Nat) (s : σ) (vis q out : List Nat) (hs : I s) :
    Tracks I (bftLoop nbS inU ffr f s vis q out) (T.bftLoop nb inU ffr f vis q out) := by
  induction f generalizing s vis q out with
  | zero => exact ⟨rfl, hs⟩
  | succ f ih =>
    cases q with
    | nil => exact ⟨rfl, hs⟩
    | cons u q =>
      simp only [bftLoop, T.bftLoop, (H s u hs).1]
      exact ih _ _ _ _ (H s u hs).2

theorem dftRec_sim (H : Sim nbS nb I) (f : Nat) (s : σ) (a : List Nat × List Nat) (v : Nat)
    (hs : I s) : Tracks I (dftRec nbS inU ffr f (s, a) v) (T.dftRec nb inU ffr f a v) := by
  induction f generalizing s a v with
  | zero => exact ⟨rfl, hs⟩
  | succ f ih =>
    simp only [dftRec, T.dftRec, (H s v hs).1]
    refine foldl_rel (Tracks I) _ ?_ _ _ ⟨rfl, (H s v hs).2⟩
    rintro ⟨s, a⟩ _ ⟨rfl, hs⟩ w _
    exact ite_rel (Tracks I) _ ⟨rfl, hs⟩ (ite_rel (Tracks I) _ ⟨rfl, hs⟩ (ih s a w hs))

theorem dftIterLoop_sim (H : Sim nbS nb I) (f : Nat) (s : σ) (st disc out : List Nat) (hs : I s) :
    Tracks I (dftIterLoop nbS inU ffr f s st disc out) (T.dftIterLoop nb inU ffr f st disc out) := by
  induction f generalizing s st disc out with
  | zero => exact ⟨rfl, hs⟩
  | succ f ih =>
    cases st with
    | nil => exact ⟨rfl, hs⟩
    | cons v st =>
      simp only [dftIterLoop, T.dftIterLoop, (H s v hs).1]
      exact ite_rel (Tracks I) _ (ih _ _ _ _ hs)
        (ite_rel (Tracks I) _ (ih _ _ _ _ hs) (ih _ _ _ _ (H s v hs).2))

theorem Tracks.map {α β : Type} {a : σ × α} {b : α} (t : Tracks I a b) (g : α → β) :
    Tracks I (a.1, g a.2) (g b) :=
  ⟨congrArg g t.1, t.2⟩

variable (p : Nat → Bool)

theorem bfsLoop_sim (H : Sim nbS nb I) (f : Nat) (s : σ) (vis q : List Nat) (hs : I s) :
    Tracks I (bfsLoop nbS inU p f s vis q) (T.bfsLoop nb inU p f vis q) := by
  induction f generalizing s vis q with
  | zero => exact ⟨rfl, hs⟩
  | succ f ih =>
    cases q with
    | nil => exact ⟨rfl, hs⟩
    | cons u q =>
      simp only [bfsLoop, T.bfsLoop, (H s u hs).1]
      cases T.bfsScan inU p vis q (nb u) with
      | inl x => exact ⟨rfl, (H s u hs).2⟩
      | inr t => exact ih _ _ _ (H s u hs).2

theorem dfsRec_sim (H : Sim nbS nb I) (f : Nat) (s : σ) (vis : List Nat) (v : Nat) (hs : I s) :
    Tracks I ((dfsRec nbS inU p f (s, vis) v).1.1, (dfsRec nbS inU p f (s, vis) v).1.2,
      (dfsRec nbS inU p f (s, vis) v).2) (T.dfsRec nb inU p f vis v) := by
  induction f generalizing s vis v with
  | zero => exact ⟨rfl, hs⟩
  | succ f ih =>
    simp only [dfsRec, T.dfsRec, (H s v hs).1]
    let R (a : (σ × List Nat) × Option Nat) (b : List Nat × Option Nat) : Prop :=
      Tracks I (a.1.1, a.1.2, a.2) b
    refine foldl_rel R _ ?_ _ _ ⟨rfl, (H s v hs).2⟩
    rintro ⟨⟨s, vis⟩, r⟩ _ ⟨rfl, hs⟩ w _
    cases r with
    | some _ => exact ⟨rfl, hs⟩
    | none =>
      exact ite_rel R _ ⟨rfl, hs⟩ (ite_rel R _ ⟨rfl, hs⟩ (ite_rel R _ ⟨rfl, hs⟩ (ih s vis w hs)))

theorem dfsIterLoop_sim (H : Sim nbS nb I) (f : Nat) (s : σ) (st disc : List Nat) (hs : I s) :
    Tracks I (dfsIterLoop nbS inU p f s st disc) (T.dfsIterLoop nb inU p f st disc) := by
  induction f generalizing s st disc with
  | zero => exact ⟨rfl, hs⟩
  | succ f ih =>
    cases st with
    | nil => exact ⟨rfl, hs⟩
    | cons v st =>
      simp only [dfsIterLoop, T.dfsIterLoop, (H s v hs).1]
      exact ite_rel (Tracks I) _ (ih _ _ _ hs) (ite_rel (Tracks I) _ (ih _ _ _ hs)
        (ite_rel (Tracks I) _ ⟨rfl, hs⟩ (ih _ _ _ (H s v hs).2)))

end generic

variable (w : World) (F : Nat → LId → Option VId → Bool)

/-- what the `neighbors()` calls made from `w` on keep: the graph of `w` and correct memos -/
def Keeps (w' : World) : Prop := SameGraph w w' ∧ CacheOK F w'

section traversal

variable (ffr : Nat → Bool) (kind : TO.TravKind) (uni : Option VId) (start : VId) (dir unk : Nat)
  (via : Option Nat)

theorem nbW_sim :
    Sim (nbW F dir unk via) (TO.resolvedNb w F dir unk via) fun s => Keeps w F s.1 := by
  rintro ⟨w', raised⟩ x ⟨hg, hc⟩
  have hn : w'.nV = w.nV := hg.1
  obtain ⟨hans, hk⟩ := neighbors_spec F hg hc x dir unk via
  cases raised
  · simp only [nbW, TO.resolvedNb, hn, hans, Bool.false_eq_true, if_false]
    refine ite_rel (Tracks _) _ ?_ (ite_rel _ _ ⟨rfl, hg, hc⟩ ⟨rfl, hg, hc⟩)
    cases M.neighborsPure w F x dir unk via <;> exact ⟨rfl, hk⟩
  · simp only [nbW, TO.resolvedNb, hn, hg.neighborsPure, if_true]
    exact ⟨rfl, hg, hc⟩

/-- an entry point around a run `r` of its loop that tracks the pure result `l`: the pre-flight
    tests `e`, `s` answer without touching the world, and the same `g` makes the answer from the
    loop's result on both sides.  `TS.traverse` / `TS.search` at a given kind unfold to the left
    sides, `TO.traverse` / `TO.search` to the right side -/
theorem entry_spec {β γ : Type} (h0 : Keeps w F w) (e s : Bool) (a b : γ) (g : β → γ)
    {r : (World × Bool) × β} {l : β} (t : Tracks (fun s => Keeps w F s.1) r l) :
    Tracks (Keeps w F)
      (if e then (w, a) else if s then (w, b) else (r.1.1, g r.2))
      (if e then a else if s then b else g l) :=
  ite_rel (Tracks _) _ ⟨rfl, h0⟩ (ite_rel (Tracks _) _ ⟨rfl, h0⟩ ⟨congrArg g t.1, t.2⟩)

/-- a traversal call answers exactly what the pure description (which ignores every memo) says,
    leaves the graph as it was, and leaves every memo correct -/
theorem traverse_spec (hc : CacheOK F w) :
    (traverse w F ffr kind uni start dir unk via).2 = TO.traverse w F ffr kind uni start dir unk via ∧
    SameGraph w (traverse w F ffr kind uni start dir unk via).1 ∧
    CacheOK F (traverse w F ffr kind uni start dir unk via).1 := by
  have h0 : Keeps w F w := ⟨.refl w, hc⟩
  have H := nbW_sim w F dir unk via
  cases kind
  · exact entry_spec w F h0 _ _ _ _ _ (bftLoop_sim _ ffr H _ _ _ _ _ h0)
  · exact entry_spec w F h0 _ _ _ _ _ ((dftRec_sim _ ffr H _ _ _ start h0).map Prod.snd)
  · exact entry_spec w F h0 _ _ _ _ _ (dftIterLoop_sim _ ffr H _ _ _ _ _ h0)

end traversal

variable (kind : TO.SearchKind) (uni : Option VId) (start : VId) (attr val : Nat)

theorem search_spec (hc : CacheOK F w) :
    (search w F kind uni start attr val).2 = TO.search w F kind uni start attr val ∧
    SameGraph w (search w F kind uni start attr val).1 ∧
    CacheOK F (search w F kind uni start attr val).1 := by
  have h0 : Keeps w F w := ⟨.refl w, hc⟩
  have H := nbW_sim w F 0 2 none
  cases kind
  · exact entry_spec w F h0 _ _ _ _ (TO.answer w F)
      (ite_rel (Tracks _) _ ⟨rfl, h0⟩ (bfsLoop_sim _ _ H _ _ _ _ h0))
  · exact entry_spec w F h0 _ _ _ _ (TO.answer w F)
      (ite_rel (Tracks _) _ ⟨rfl, h0⟩ ((dfsRec_sim _ _ H _ _ [] start h0).map Prod.snd))
  · exact entry_spec w F h0 _ _ _ _ (TO.answer w F) (dfsIterLoop_sim _ _ H _ _ _ _ h0)

end TS

namespace R

theorem renderLinesS_spec (w0 : World) (F : Nat → LId → Option VId → Bool) (rf : RFun)
    (sort : Option (Option VId → Nat)) : ∀ (vs : List VId) (w : World),
    TS.Keeps w0 F w →
    TS.Tracks (TS.Keeps w0 F) (renderLinesS F rf sort w vs)
      (renderLines w0 F rf sort vs) := by
  intro vs
  induction vs with
  | nil => exact fun w h => ⟨rfl, h⟩
  | cons v vs ih =>
    intro w h
    obtain ⟨hans, h'⟩ := neighbors_spec F h.1 h.2 v 0 2 none
    simp only [renderLinesS, renderLines, hans]
    cases M.neighborsPure w0 F v 0 2 none with
    | error e => exact ⟨rfl, h'⟩
    | ok nbs =>
      obtain ⟨e1, e2⟩ := ih _ h'
      simp only [e1]
      cases renderLines w0 F rf sort vs <;> exact ⟨rfl, e2⟩

/-- `basic_render` answers what the memo-free description `basicRender` says (the object of the
    C16 theorems), leaves the graph as it was and every memo correct -/
theorem basicRenderS_spec (w : World) (F : Nat → LId → Option VId → Bool) (u : VId) (rf : RFun)
    (sort : Option (Option VId → Nat)) (hc : CacheOK F w) :
    (basicRenderS w F u rf sort).2 = basicRender w F u rf sort ∧
    SameGraph w (basicRenderS w F u rf sort).1 ∧ CacheOK F (basicRenderS w F u rf sort).1 := by
  have H := fun vs => renderLinesS_spec w F rf sort vs w ⟨.refl w, hc⟩
  refine ite_rel (TS.Tracks (TS.Keeps w F)) _ ⟨rfl, .refl w, hc⟩ ?_
  simp only [(H _).1]
  cases renderLines w F rf sort _ <;> exact ⟨rfl, (H _).2⟩

end R

/-- the read-only operations of the extended alphabet -/
def XOp.readOnly : XOp → Prop
  | .base (.neighbors ..) | .base (.findLinks ..) | .traverse .. | .search .. => True
  | _ => False

variable (F : Nat → LId → Option VId → Bool) (R : Nat → Option VId → Bool)

/-- a call of the extended alphabet keeps the invariant and the memos correct; a read-only one
    keeps the graph -/
theorem stepX_keeps (w : World) (op : XOp) (h : Inv w ∧ CacheOK F w) :
    (Inv (M.stepX F R w op).1 ∧ CacheOK F (M.stepX F R w op).1) ∧
    (op.readOnly → SameGraph w (M.stepX F R w op).1) := by
  cases op with
  | base op =>
    obtain ⟨e, h'⟩ := C.step_sim S.prims_framePres (neighbors_inv_cache F) (sim_cache F) w op h
    refine ⟨?_, fun hro => ?_⟩
    · show Inv (M.step F w op).1 ∧ CacheOK F (M.step F w op).1
      rw [M.step, e]
      exact h'
    show SameGraph w (M.step F w op).1
    cases op with
    | neighbors v dir unk filt fault => exact M.step_sameGraph F w _ trivial
    | findLinks a b ds unk filt fault => exact M.step_sameGraph F w _ trivial
    | _ => exact hro.elim
  | traverse kind uni start dir unk via res =>
    simp only [M.stepX]
    split
    · exact ⟨h, fun _ => .refl w⟩
    · obtain ⟨g, c⟩ := (TS.traverse_spec w F _ kind uni start dir unk via h.2).2
      exact ⟨⟨inv_of_sameGraph h.1 g, c⟩, fun _ => g⟩
  | search kind uni start attr val =>
    simp only [M.stepX]
    split
    · exact ⟨h, fun _ => .refl w⟩
    · obtain ⟨g, c⟩ := (TS.search_spec w F kind uni start attr val h.2).2
      exact ⟨⟨inv_of_sameGraph h.1 g, c⟩, fun _ => g⟩

theorem runFromX_keeps (ops : List XOp) : ∀ w, Inv w ∧ CacheOK F w →
    (Inv (M.runFromX F R w ops).1 ∧ CacheOK F (M.runFromX F R w ops).1) ∧
    ((∀ op ∈ ops, op.readOnly) → SameGraph w (M.runFromX F R w ops).1) := by
  induction ops with
  | nil => exact fun w h => ⟨h, fun _ => .refl w⟩
  | cons op ops ih =>
    intro w h
    obtain ⟨h1, g1⟩ := stepX_keeps F R w op h
    obtain ⟨h2, g2⟩ := ih _ h1
    exact ⟨h2, fun hq => (g1 (hq op (by simp))).trans (g2 fun o ho => hq o (by simp [ho]))⟩

end EG
