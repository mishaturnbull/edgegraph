import EG.Proofs.TravOpsLemmas
import EG.Proofs.CacheLemmas
/-
  EG.Proofs.TravWorldLemmas — the world-level entry points beyond exactness (C07 at the level
  of the world): the canonical orders on a total world, which fields of the world `traverse`
  reads, and what has been yielded when `neighbors()` raises.
-/
namespace EG

/-- what `Sound` says of a listing it says of every prefix of it -/
theorem T.Sound.of_prefix {nb : Nat → List Nat} {inU : Nat → Bool} {s : Nat} {out l : List Nat}
    (h : out <+: l) (hl : T.Sound nb inU s l) : T.Sound nb inU s out := by
  obtain ⟨rest, rfl⟩ := h
  refine ⟨(List.nodup_append.1 hl.1).1, fun hne => ?_, fun x hx => hl.2.2 x (List.mem_append_left _ hx)⟩
  cases out with
  | nil => exact absurd rfl hne
  | cons a o => exact hl.2.1 (List.cons_ne_nil _ _)

namespace TO

variable (w : World) (F : Nat → LId → Option VId → Bool)

/-- `uni is None or y in uni.vertices` as a Bool -/
def memberB (uni : Option VId) (y : VId) : Bool :=
  match uni with
  | none => true
  | some u => (w.members u).contains y

theorem inUni_eq_memberB (uni : Option VId) {x : Nat} (hx : x < w.nV) :
    inUni w uni x = memberB w uni x := by
  have h1 : ¬ x > w.nV := by omega
  cases uni with
  | none => simp [inUni, memberB, h1]
  | some u => simp [inUni, memberB, h1, hx]

section orders

variable (uni : Option VId) (start : VId) (dir unk : Nat) (via : Option Nat)

theorem pure_bft_order (ht : TotalAt w F dir unk via) (hs : start < w.nV) :
    pureOut w F (fun _ => true) .bft uni start dir unk via =
      T.bftSpec (nbOf w F dir unk via) (memberB w uni) (w.nV + 1) [start] 0 := by
  have hb := resolvedNb_bounded w F ht
  show T.bft _ _ _ (fuelFor w _) start = _
  rw [T.bft_fuel hb hs (fuelFor_ge' w _), ← T.bftLoop_eq_spec]
  exact T.bftLoop_local (T.Maps.of_bounded hb (fun x hx => resolvedNb_eq_nbOf w F ht hx)
    fun x hx => inUni_eq_memberB w uni hx) _ _ _ _ _ (by simpa using hs)

theorem pure_dftr_order (ht : TotalAt w F dir unk via) (hs : start < w.nV) :
    pureOut w F (fun _ => true) .dftr uni start dir unk via =
      T.dftRecursive (nbOf w F dir unk via) (memberB w uni) (fun _ => true) (w.nV + 1) start := by
  have hb := resolvedNb_bounded w F ht
  show T.dftRecursive _ _ _ (fuelFor w _) start = _
  rw [T.dftRecursive_fuel hb hs (fuelFor_ge' w _)]
  unfold T.dftRecursive
  rw [T.dftRec_local (T.Maps.of_bounded hb (fun x hx => resolvedNb_eq_nbOf w F ht hx)
    fun x hx => inUni_eq_memberB w uni hx)
    _ _ _ _ hs]

theorem pure_dfti_order (ht : TotalAt w F dir unk via) (hs : start < w.nV) (hu : memberOf w uni start) :
    pureOut w F (fun _ => true) .dfti uni start dir unk via =
      T.dftRecursive (fun v => (nbOf w F dir unk via v).reverse) (memberB w uni) (fun _ => true)
        (w.nV + 1) start := by
  have hb := resolvedNb_bounded w F ht
  have hsU : inUni w uni start = true := (inUni_lt w uni hs).2 hu
  show T.dftIterative _ _ _ (fuelFor w _) start = _
  rw [T.dftIterative_eq_reversed hb hs hsU (fuelFor_ge w _)]
  unfold T.dftRecursive
  rw [T.dftRec_local (nb' := fun v => (nbOf w F dir unk via v).reverse)
    (T.Maps.of_bounded (T.Bounded.reverse hb)
      (fun x hx => by simp only [resolvedNb_eq_nbOf w F ht hx])
      fun x hx => inUni_eq_memberB w uni hx) _ _ _ _ hs]

end orders

section fields

variable (w' : World)

theorem resolvedNb_congr (hn : w'.nV = w.nV) (hl : w'.links = w.links) (he : w'.ends = w.ends)
    (hc : w'.lcls = w.lcls) (dir unk : Nat) (via : Option Nat) :
    resolvedNb w' F dir unk via = resolvedNb w F dir unk via := by
  funext x
  simp only [resolvedNb, hn, EG.neighborsPure_congr w w' F x dir unk via (congrFun hl x)
    fun l _ => ⟨congrFun hc l, congrFun he l⟩]

theorem errOf_congr (hn : w'.nV = w.nV) (hl : w'.links = w.links) (he : w'.ends = w.ends)
    (hc : w'.lcls = w.lcls) (dir unk : Nat) (via : Option Nat) :
    errOf w' F dir unk via = errOf w F dir unk via := by
  funext x
  simp only [errOf, hn, EG.neighborsPure_congr w w' F x dir unk via (congrFun hl x)
    fun l _ => ⟨congrFun hc l, congrFun he l⟩]

theorem inUni_congr (hn : w'.nV = w.nV) (hm : w'.members = w.members) (uni : Option VId) :
    inUni w' uni = inUni w uni := by
  funext x
  simp only [inUni, hn, hm]

theorem fuelFor_congr (hn : w'.nV = w.nV) (nb : Nat → List Nat) : fuelFor w' nb = fuelFor w nb := by
  simp only [fuelFor, hn]

theorem cutOutput_congr (hn : w'.nV = w.nV) (hl : w'.links = w.links) (he : w'.ends = w.ends)
    (hc : w'.lcls = w.lcls) (dir unk : Nat) (via : Option Nat) (l : List Nat) :
    cutOutput w' F dir unk via l = cutOutput w F dir unk via l := by
  simp only [cutOutput_eq, hn, errOf_congr w F w' hn hl he hc]

theorem traverse_congr (ffr : Nat → Bool) (kind : TravKind) (uni : Option VId) (start : VId)
    (dir unk : Nat) (via : Option Nat)
    (hn : w'.nV = w.nV) (hl : w'.links = w.links) (he : w'.ends = w.ends) (hc : w'.lcls = w.lcls)
    (hm : w'.members = w.members) :
    traverse w' F ffr kind uni start dir unk via = traverse w F ffr kind uni start dir unk via := by
  simp only [traverse, hm, resolvedNb_congr w F w' hn hl he hc, inUni_congr w w' hn hm,
    fuelFor_congr w w' hn, cutOutput_congr w F w' hn hl he hc]

theorem search_congr (kind : SearchKind) (uni : Option VId) (start : VId) (attr val : Nat)
    (hn : w'.nV = w.nV) (hl : w'.links = w.links) (he : w'.ends = w.ends) (hc : w'.lcls = w.lcls)
    (hm : w'.members = w.members) (ha : w'.attrs = w.attrs) :
    search w' F kind uni start attr val = search w F kind uni start attr val := by
  have e : attrMatch w' attr val = attrMatch w attr val := by
    funext x
    simp only [attrMatch, hasAttrVal, hn, ha]
  simp only [search, hm, hn, e, resolvedNb_congr w F w' hn hl he hc, inUni_congr w w' hn hm,
    fuelFor_congr w w' hn, errOf_congr w F w' hn hl he hc]

end fields

variable (kind : TravKind) (uni : Option VId) (start : VId) (dir unk : Nat) (via : Option Nat)

theorem pureOut_sound (hs : start < w.nV) (hu : memberOf w uni start) :
    T.Sound (resolvedNb w F dir unk via) (inUni w uni) start
      (pureOut w F (fun _ => true) kind uni start dir unk via) := by
  cases kind
  · exact T.bft_sound
  · exact T.dftRecursive_sound
  · exact T.dftIterative_sound ((inUni_lt w uni hs).2 hu)

theorem reach_id_cases (hs : start < w.nV) {x : Nat}
    (h : T.Reach (resolvedNb w F dir unk via) (inUni w uni) start x) (hx : x ≤ w.nV) :
    x < w.nV ∨ (x = w.nV ∧ uni = none) := by
  cases h with
  | refl => exact Or.inl hs
  | step _ _ hU =>
    have h1 : ¬ x > w.nV := by omega
    cases uni with
    | none =>
      rcases Nat.lt_or_ge x w.nV with h | h
      · exact Or.inl h
      · exact Or.inr ⟨by omega, rfl⟩
    | some u =>
      simp only [inUni, h1, if_false, Bool.and_eq_true, decide_eq_true_eq] at hU
      exact Or.inl hU.1

theorem error_prefix (hs : start < w.nV) (hu : memberOf w uni start) (out : List Nat) (e : Err)
    (h : traverse w F (fun _ => true) kind uni start dir unk via = (out, some e)) :
    out.Nodup ∧ (∀ x ∈ out, x < w.nV ∨ (x = w.nV ∧ uni = none)) ∧
    (out ≠ [] → out.head? = some start) ∧
    ∀ x ∈ out, T.Reach (resolvedNb w F dir unk via) (inUni w uni) start x := by
  rw [traverse_eq_cut w F _ kind uni start dir unk via hu, cutOutput_eq] at h
  obtain ⟨rfl, -⟩ := Prod.mk.inj h
  obtain ⟨p1, p2, p3⟩ := (pureOut_sound w F kind uni start dir unk via hs hu).of_prefix
    (List.takeWhile_prefix (· ≤ w.nV))
  exact ⟨p1, fun x hx => reach_id_cases w F uni start dir unk via hs (p3 x hx)
    (by simpa using List.all_eq_true.1 List.all_takeWhile x hx), p2, p3⟩

end TO
end EG
