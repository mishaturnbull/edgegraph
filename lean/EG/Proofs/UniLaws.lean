import EG.Proofs.Sym
/-
  EG.Proofs.UniLaws — universe membership and universe↔laws primitives:
  the mirror model M equals the reference model S, and S preserves USym / LawSym.
-/
namespace EG
namespace M

/-- depth 2: after `u` appends `v`, `add_to_universe`'s call back stops at `v ∈ members u` -/
theorem uniAddVertex_eq (f : Nat) (w : World) (u v : VId) :
    uniAddVertex (f+2) w u v = some (S.uniAddVertex w u v) := by
  simp only [uniAddVertex, addToUniverse, S.uniAddVertex, World.setMembers, World.setUnis]
  by_cases h1 : v ∈ w.members u
  · simp [h1]
  · by_cases h2 : u ∈ w.unis v
    · simp [h1, h2]; world_cols
    · simp [h1, h2]; world_cols

/-- depth 2: after `v` appends `u`, `add_vertex`'s call back stops at `u ∈ unis v` -/
theorem addToUniverse_eq (f : Nat) (w : World) (v u : VId) :
    addToUniverse (f+2) w v u = some (S.addToUniverse w v u) := by
  simp only [uniAddVertex, addToUniverse, S.addToUniverse, World.setMembers, World.setUnis]
  by_cases h1 : v ∈ w.members u
  · by_cases h2 : u ∈ w.unis v
    · simp [h1, h2]
    · simp [h1, h2]; world_cols
  · by_cases h2 : u ∈ w.unis v
    · simp [h1, h2]; world_cols
    · simp [h1, h2]; world_cols

/-- depth 3: the third call stops at `v ∉ members u` (no duplicates: one erasure removes `v`) -/
theorem uniRemoveVertex_eq (f : Nat) (w : World) (u v : VId) (h1 : (w.members u).Nodup) :
    uniRemoveVertex (f+3) w u v =
      some (if v ∈ w.members u then .ok (S.uniRemoveVertex w u v) else .error .value) := by
  have hne : v ∉ (w.members u).erase v := fun h => (List.Nodup.mem_erase_iff h1).mp h |>.1 rfl
  simp only [uniRemoveVertex, removeFromUniverse, S.uniRemoveVertex, World.setMembers, World.setUnis]
  by_cases h3 : v ∈ w.members u
  · by_cases h4 : u ∈ w.unis v
    · simp [h3, h4, hne]; world_cols
    · have herase := List.erase_of_not_mem h4
      simp [h3, h4]; world_cols
  · simp [h3]

/-- depth 3: the third call stops at `u ∉ unis v` -/
theorem removeFromUniverse_eq (f : Nat) (w : World) (v u : VId) (h2 : (w.unis v).Nodup) :
    removeFromUniverse (f+3) w v u =
      some (if u ∈ w.unis v then .ok (S.removeFromUniverse w v u) else .error .value) := by
  have hne : u ∉ (w.unis v).erase u := fun h => (List.Nodup.mem_erase_iff h2).mp h |>.1 rfl
  simp only [uniRemoveVertex, removeFromUniverse, S.removeFromUniverse, World.setMembers, World.setUnis]
  by_cases h3 : u ∈ w.unis v
  · by_cases h4 : v ∈ w.members u
    · simp [h3, h4, hne]; world_cols
    · have herase := List.erase_of_not_mem h4
      simp [h3, h4]; world_cols
  · simp [h3]

theorem setLaws_noop (f : Nat) (w : World) (u : VId) (new : Option WId) (h : new = w.laws u) :
    setLaws (f+1) w u new = some w := by
  simp only [setLaws, h, ↓reduceIte]

theorem setAppliesTo_noop (f : Nat) (w : World) (L : WId) (new : Option VId)
    (h : new = w.appliesTo L) : setAppliesTo (f+1) w L new = some w := by
  simp only [setAppliesTo, h, ↓reduceIte]

/-- `old.laws = None` from `applies_to`'s setter: `L` no longer points back, so no further call -/
theorem setLaws_detach (f : Nat) (w : World) (o : VId) (L : WId)
    (h1 : w.laws o = some L) (h2 : w.appliesTo L ≠ some o) :
    setLaws (f+1) w o none = some (w.setLaws o none) := by
  simp only [setLaws, World.setLaws, h1]
  simp [h2]

/-- `old.applies_to = None` from `laws`' setter, likewise -/
theorem setAppliesTo_detach (f : Nat) (w : World) (L : WId) (o : VId)
    (h1 : w.appliesTo L = some o) (h2 : w.laws o ≠ some L) :
    setAppliesTo (f+1) w L none = some (w.setAppliesTo L none) := by
  simp only [setAppliesTo, World.setAppliesTo, h1]
  simp [h2]

/-- `L.applies_to = u` from `laws`' setter (`u` points at `L` already): one call detaches the
    previous holder (`h3`: it points back), and the final `u.laws = L` is a no-op -/
theorem setAppliesTo_attach (f : Nat) (w : World) (L : WId) (u : VId)
    (h1 : w.laws u = some L) (h2 : w.appliesTo L ≠ some u)
    (h3 : ∀ o, w.appliesTo L = some o → w.laws o = some L) :
    setAppliesTo (f+2) w L (some u) =
      some { w with appliesTo := upd w.appliesTo L (some u)
                    laws := fun x => if some x = w.appliesTo L then none else w.laws x } := by
  rw [setAppliesTo]
  rw [if_neg (fun e => h2 e.symm)]
  cases hl : w.appliesTo L with
  | none =>
    simp only [World.setAppliesTo, upd_same]
    rw [setLaws_noop _ _ _ _ (by simp [h1])]
    congr 1
  | some o =>
    have hou : o ≠ u := by intro e; subst e; exact h2 hl
    have h3 := h3 o hl
    simp only [World.setAppliesTo, h3, ↓reduceIte]
    rw [setLaws_detach _ _ _ L (by simp [h3]) (by simp; exact fun e => hou e.symm)]
    simp only [World.setLaws, upd_same]
    rw [setLaws_noop _ _ _ _ (by simp [upd, Ne.symm hou, h1])]
    congr 1
    apply World.ext' <;> intros <;> simp [upd] <;> grind

/-- `u.laws = L` called from `applies_to`'s setter, the mirror image -/
theorem setLaws_attach (f : Nat) (w : World) (u : VId) (L : WId)
    (h1 : w.appliesTo L = some u) (h2 : w.laws u ≠ some L)
    (h3 : ∀ o, w.laws u = some o → w.appliesTo o = some u) :
    setLaws (f+2) w u (some L) =
      some { w with laws := upd w.laws u (some L)
                    appliesTo := fun y => if some y = w.laws u then none else w.appliesTo y } := by
  rw [setLaws]
  rw [if_neg (fun e => h2 e.symm)]
  cases hl : w.laws u with
  | none =>
    simp only [World.setLaws]
    rw [setAppliesTo_noop _ _ _ _ (by simp [h1])]
    congr 1
  | some o =>
    have hou : o ≠ L := by intro e; subst e; exact h2 hl
    have h3 := h3 o hl
    simp only [World.setLaws, h3, ↓reduceIte]
    rw [setAppliesTo_detach _ _ _ u (by simp [h3]) (by simp; exact fun e => hou e.symm)]
    simp only [World.setAppliesTo]
    rw [setAppliesTo_noop _ _ _ _ (by simp [upd, Ne.symm hou, h1])]
    congr 1
    apply World.ext' <;> intros <;> simp [upd] <;> grind

/-- under `LawSym` the previous partner points back, so it goes by one `_detach`, and the new one
    comes by one `_attach` whose call back is a no-op: depth 3 (`f+3` would do; the statement leaves slack below `M.fuel` = 8) -/
theorem setLaws_eq (f : Nat) (w : World) (u : VId) (new : Option WId) (h : LawSym w) :
    setLaws (f+5) w u new = some (S.setLaws w u new) := by
  by_cases h0 : new = w.laws u
  · rw [setLaws_noop _ _ _ _ h0]; simp [S.setLaws, h0]
  · rw [setLaws]
    rw [if_neg h0]
    cases hl : w.laws u with
    | none =>
      cases new with
      | none => exact absurd hl.symm h0
      | some L =>
        have := h u L
        simp only []
        rw [setAppliesTo_attach _ _ L u (by simp [World.setLaws]) (by simp [World.setLaws]; grind)
          (by intro o; have := h o L; simp [World.setLaws, upd]; grind)]
        simp [S.setLaws, hl, World.setLaws]
        refine ⟨?_, ?_⟩ <;> funext x <;> have := h x L <;> simp [upd] <;> grind
    | some o =>
      have ho : w.appliesTo o = some u := (h u o).mp hl
      simp only [World.setLaws, ho, ↓reduceIte]
      rw [setAppliesTo_detach _ _ _ u (by simp [ho]) (by simp; grind)]
      cases new with
      | none =>
        simp [S.setLaws, hl, World.setAppliesTo]
        world_cols
      | some L =>
        have := h u L
        have hoL : o ≠ L := by grind
        simp only []
        rw [setAppliesTo_attach _ _ L u (by simp [World.setAppliesTo]) (by simp [World.setAppliesTo, upd]; grind)
          (by intro o'; have := h o' L; simp [World.setAppliesTo, upd]; grind)]
        simp [S.setLaws, hl, World.setAppliesTo, Ne.symm hoL]
        refine ⟨?_, ?_⟩ <;> funext x <;> have := h x L <;> simp [upd] <;> grind

/-- the mirror image of `setLaws_eq` -/
theorem setAppliesTo_eq (f : Nat) (w : World) (L : WId) (new : Option VId) (h : LawSym w) :
    setAppliesTo (f+5) w L new = some (S.setAppliesTo w L new) := by
  by_cases h0 : new = w.appliesTo L
  · rw [setAppliesTo_noop _ _ _ _ h0]; simp [S.setAppliesTo, h0]
  · rw [setAppliesTo]
    rw [if_neg h0]
    cases hl : w.appliesTo L with
    | none =>
      cases new with
      | none => exact absurd hl.symm h0
      | some u =>
        have := h u L
        simp only [World.setAppliesTo, upd_same]
        rw [setLaws_attach _ _ u L (by simp) (by simp; grind)
          (by intro o; have := h u o; simp [upd]; grind)]
        simp [S.setAppliesTo, hl]
        refine ⟨?_, ?_⟩ <;> funext x <;> have := h u x <;> simp [upd] <;> grind
    | some o =>
      have ho : w.laws o = some L := (h o L).mpr hl
      simp only [World.setAppliesTo, ho, ↓reduceIte]
      rw [setLaws_detach _ _ _ L (by simp [ho]) (by simp; grind)]
      cases new with
      | none =>
        simp [S.setAppliesTo, hl, World.setLaws]
        world_cols
      | some u =>
        have := h u L
        have hou : o ≠ u := by grind
        simp only [World.setLaws, upd_same]
        rw [setLaws_attach _ _ u L (by simp) (by simp [upd]; grind)
          (by intro o'; have := h u o'; simp [upd]; grind)]
        simp [S.setAppliesTo, hl, Ne.symm hou]
        refine ⟨?_, ?_⟩ <;> funext x <;> have := h u x <;> simp [upd] <;> grind

end M

namespace S

theorem uniAddVertex_usym (w : World) (u v : VId) (h : USym w) : USym (S.uniAddVertex w u v) := by
  obtain ⟨h1, h2, h3⟩ := h
  refine ⟨?_, ?_, ?_⟩
  · intro v' u'
    have := h1 v' u'; have := h1 v u; have := h1 v' u; have := h1 v u'
    simp only [S.uniAddVertex]; grind
  · exact fun u' => nodup_ite (fun hc => nodup_snoc (h2 u) hc.2) (h2 u')
  · exact fun v' => nodup_ite (fun hc => nodup_snoc (h3 v) hc.2.2) (h3 v')

theorem addToUniverse_eq_uniAddVertex (w : World) (v u : VId)
    (h : v ∈ w.members u ↔ u ∈ w.unis v) : S.addToUniverse w v u = S.uniAddVertex w u v := by
  simp only [S.addToUniverse, S.uniAddVertex, h, and_self]

theorem addToUniverse_usym (w : World) (v u : VId) (h : USym w) : USym (S.addToUniverse w v u) :=
  addToUniverse_eq_uniAddVertex w v u (h.1 v u) ▸ S.uniAddVertex_usym w u v h

theorem uniRemoveVertex_usym (w : World) (u v : VId) (h : USym w) : USym (S.uniRemoveVertex w u v) := by
  obtain ⟨h1, h2, h3⟩ := h
  refine ⟨?_, ?_, ?_⟩
  · intro v' u'
    have := h1 v' u'; have := h1 v u; have := h1 v' u; have := h1 v u'
    have := List.Nodup.mem_erase_iff (a := v') (b := v) (h2 u)
    have := List.Nodup.mem_erase_iff (a := u') (b := u) (h3 v)
    simp only [S.uniRemoveVertex]; grind
  · exact fun u' => nodup_ite (fun _ => List.Nodup.erase _ (h2 u)) (h2 u')
  · exact fun v' => nodup_ite (fun _ => List.Nodup.erase _ (h3 v)) (h3 v')

/-- `S.removeFromUniverse w v u` is `S.uniRemoveVertex w u v` up to the order of two fields: the
    twin lemma applies as it is, here and in `InvPrims` -/
theorem removeFromUniverse_usym (w : World) (v u : VId) (h : USym w) :
    USym (S.removeFromUniverse w v u) := S.uniRemoveVertex_usym w u v h

theorem setLaws_lawsym (w : World) (u : VId) (new : Option WId) (h : LawSym w) : LawSym (S.setLaws w u new) := by
  unfold S.setLaws
  split
  · exact h
  · rename_i hne
    intro x y
    have := h x y; have := h u y
    cases new with
    | none =>
      cases hl : w.laws u with
      | none => simp [hl] at hne
      | some o =>
        have := h u o; have := h x o
        simp only []; grind
    | some L =>
      have := h x L; have := h u L
      cases hl : w.laws u with
      | none => simp only []; grind
      | some o =>
        have := h u o; have := h x o
        simp only []; grind

theorem setAppliesTo_lawsym (w : World) (L : WId) (new : Option VId) (h : LawSym w) :
    LawSym (S.setAppliesTo w L new) := by
  unfold S.setAppliesTo
  split
  · exact h
  · rename_i hne
    intro x y
    have := h x y; have := h x L
    cases new with
    | none =>
      cases hl : w.appliesTo L with
      | none => simp [hl] at hne
      | some o =>
        have := h o L; have := h o y
        simp only []; grind
    | some n =>
      have := h n y; have := h n L
      cases hl : w.appliesTo L with
      | none => simp only []; grind
      | some o =>
        have := h o L; have := h o y
        simp only []; grind

end S
end EG
