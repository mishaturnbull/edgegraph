import EG.Proofs.QueryLemmas
import EG.Proofs.Inv
/-
  EG.Proofs.UnlinkLemmas — helper lemmas for the `explicit.unlink` clauses of C03 / C09: the body
  of its loop on the reference model in closed form (`S.unlinkPair`) and the loop's independence of
  the order of the links; what `find_links` does with a link that joins, or does not join, the
  queried pair; the step.  Only the ends are followed through the loop: a vertex's links can only
  have been erased, and which are left the ends say afterwards (`Sym`, `Sublist.eq_filter`).
-/
namespace EG

/-- `l.unlink_from(a); l.unlink_from(b)` on the reference model -/
def S.unlinkPair (a b : VId) (w : World) (l : LId) : World :=
  S.unlinkFrom (S.unlinkFrom w l (some a)) l (some b)

theorem erase_of_not_mem (ls : List Nat) (l : Nat) (h : l ∉ ls) : ls.erase l = ls :=
  List.erase_of_not_mem h

theorem S.unlinkPair_ends (a b : VId) (w : World) (l y : LId) :
    (S.unlinkPair a b w l).ends y =
      if y = l then (w.ends l).filter (fun e => e != some a && e != some b) else w.ends y := by
  simp only [S.unlinkPair, S.unlinkFrom]
  by_cases hy : y = l
  · simp only [hy, ↓reduceIte, List.filter_filter]
    apply List.filter_congr
    intro e _
    exact Bool.and_comm _ _
  · simp only [hy, ↓reduceIte]

theorem S.unlinkFrom_links_sublist (w : World) (l : LId) (k x : VId) :
    ((S.unlinkFrom w l (some k)).links x).Sublist (w.links x) := by
  simp only [S.unlinkFrom]
  split
  · rename_i h; exact h.1 ▸ List.erase_sublist
  · exact .refl _

/-- Two `unlink_from` calls on different links commute: each rewrites the `ends` entry of its own
    link only, both clear the memos of the vertices their link lists, and `erase l`, `erase l'` on a
    vertex's links commute. -/
theorem S.unlinkFrom_comm (w : World) (l l' : LId) (x y : VId) (hne : l ≠ l') :
    S.unlinkFrom (S.unlinkFrom w l (some x)) l' (some y) =
      S.unlinkFrom (S.unlinkFrom w l' (some y)) l (some x) := by
  have hne' := Ne.symm hne
  apply World.ext' <;> try (intros; rfl)
  all_goals
    intro z
    simp only [S.unlinkFrom, hne, hne', if_false]
    grind

theorem S.unlinkPair_comm (a b : VId) (w : World) (l l' : LId) (hne : l ≠ l') :
    S.unlinkPair a b (S.unlinkPair a b w l) l' = S.unlinkPair a b (S.unlinkPair a b w l') l := by
  simp only [S.unlinkPair]
  rw [S.unlinkFrom_comm _ l l' b a hne, S.unlinkFrom_comm _ l l' b b hne,
    S.unlinkFrom_comm _ l l' a a hne, S.unlinkFrom_comm _ l l' a b hne]

theorem S.unlinkEach_eq (a b : VId) (J : List LId) (w : World) :
    C.unlinkEach S.prims w a b J = some (J.foldl (S.unlinkPair a b) w) := by
  rw [C.unlinkEach_eq_fold]
  show foldOpt (fun w l => some (S.unlinkPair a b w l)) w J = _
  rw [foldOpt_total]

theorem S.unlinkEach_perm (w : World) (a b : VId) (J J' : List LId) (hp : J.Perm J') :
    C.unlinkEach S.prims w a b J = C.unlinkEach S.prims w a b J' := by
  rw [S.unlinkEach_eq, S.unlinkEach_eq]
  congr 1
  apply List.Perm.foldl_eq' hp
  intro x _ y _ z
  by_cases h : x = y
  · subst h; rfl
  · exact S.unlinkPair_comm a b z x y h

/-- the world after the `unlinkEach` loop: the links of `J` lose `a` and `b`; no vertex gains a
    link or has its links reordered -/
theorem S.foldl_unlinkPair (a b : VId) (J : List LId) (w : World) :
    AssocFrame w (J.foldl (S.unlinkPair a b) w) ∧
    (∀ x, ((J.foldl (S.unlinkPair a b) w).links x).Sublist (w.links x)) ∧
    ∀ y, (J.foldl (S.unlinkPair a b) w).ends y =
      if y ∈ J then (w.ends y).filter (fun e => e != some a && e != some b) else w.ends y := by
  induction J generalizing w with
  | nil => exact ⟨.refl w, fun _ => .refl _, fun y => by simp⟩
  | cons l J ih =>
    obtain ⟨i1, i2, i3⟩ := ih (S.unlinkPair a b w l)
    refine ⟨((S.unlinkFrom_frame _ _ _).trans (S.unlinkFrom_frame _ _ _)).trans i1,
      fun x => (i2 x).trans ((S.unlinkFrom_links_sublist _ l b x).trans
        (S.unlinkFrom_links_sublist w l a x)), fun y => ?_⟩
    rw [List.foldl_cons, i3 y, S.unlinkPair_ends a b w l y]
    by_cases hy : y = l
    · subst hy
      simp only [↓reduceIte, List.mem_cons, true_or, List.filter_filter, Bool.and_self]
      split <;> rfl
    · simp only [hy, ↓reduceIte, List.mem_cons, false_or]

/-- link `l` joins `a` and `b` (in either orientation; a self-loop when a = b) -/
def Joins (w : World) (l : LId) (a b : VId) : Prop :=
  w.ends l = [some a, some b] ∨ w.ends l = [some b, some a]

namespace M

theorem joins_iff {w : World} {l : LId} {x y : Option VId} (he : w.ends l = [x, y]) (a b : VId) :
    Joins w l a b ↔ otherOf x y a = some b := by
  simp only [Joins, he, otherOf_eq_some, List.cons.injEq, and_true]

theorem joins_unique {w : World} {l : LId} {a b c d : VId} (h : Joins w l a b)
    (h' : Joins w l c d) : (c = a ∧ d = b) ∨ (c = b ∧ d = a) := by
  simp only [Joins] at h h'
  rcases h with e | e
  all_goals
    simp only [e, List.cons.injEq, Option.some.injEq, and_true] at h'
    grind

theorem flOne_absent (w : World) (F : Nat → LId → Option VId → Bool) (a b : VId) (ds : Bool)
    (unk : Nat) (filt : Option Nat) (l : LId) (hk : (w.lcls l).kind ≠ .nary)
    (hlen : (w.ends l).length = 2) (hn : ¬ Joins w l a b) :
    flOne w F a b ds unk filt l = .absent := by
  obtain ⟨x, y, he⟩ := ends_pair _ hlen
  rw [flOne_pair he hk, if_neg (mt (joins_iff he a b).mpr hn)]

/-- called as `explicit.unlink` calls it, `find_links(a, b)` finds every proper two-ended link
    that joins `a` and `b` -/
theorem flOne_unlink (w : World) (F : Nat → LId → Option VId → Bool) (a b : VId) (l : LId)
    (hk : (w.lcls l).kind ≠ .nary) (hlen : (w.ends l).length = 2) (hj : Joins w l a b) :
    flOne w F a b false 2 none l = .found := by
  obtain ⟨x, y, he⟩ := ends_pair _ hlen
  rw [flOne_pair he hk, if_pos ((joins_iff he a b).mp hj)]
  rfl

theorem findLinks_unlink (w : World) (F : Nat → LId → Option VId → Bool) (a b : VId)
    (ht : TwoEndedAt w a) :
    ∃ J, findLinks w F a b false 2 none = .ok J ∧ J.Nodup ∧
      ∀ l, l ∈ J ↔ l ∈ w.links a ∧ Joins w l a b := by
  rw [findLinks_eq]
  cases hfl : flFold (flOne w F a b false 2 none) (w.links a) [] with
  | error e =>
    obtain ⟨l, hl, e', he'⟩ := (flFold_raises _ _ _).mp ⟨e, hfl⟩
    by_cases hj : Joins w l a b
    · rw [flOne_unlink w F a b l (ht l hl).1 (ht l hl).2 hj] at he'
      cases he'
    · rw [flOne_absent w F a b false 2 none l (ht l hl).1 (ht l hl).2 hj] at he'
      cases he'
  | ok J =>
    refine ⟨J, rfl, flFold_ok _ _ [] J hfl ▸ nodup_dedupKeepFirst _, fun l => ?_⟩
    rw [flFold_ok _ _ [] J hfl, mem_dedupKeepFirst, List.nil_append, List.mem_filter, decide_eq_true_eq]
    refine and_congr_right fun hl => ?_
    by_cases hj : Joins w l a b
    · simp only [flOne_unlink w F a b l (ht l hl).1 (ht l hl).2 hj, hj]
    · simp only [flOne_absent w F a b false 2 none l (ht l hl).1 (ht l hl).2 hj, hj, reduceCtorEq]

end M

/-- `explicit.unlink(a, b)` on `w`: `w'` is the world after the call (whatever `destroy`), `J` the
    links it removed -/
structure Unlinked (F : Nat → LId → Option VId → Bool) (w : World) (a b : VId) (w' : World)
    (J : List LId) : Prop where
  step : ∀ d, M.step F w (.unlink a b d) = (w', if d then .nothing else .links J)
  nodup : J.Nodup
  mem : ∀ l, l ∈ J ↔ l ∈ w.links a ∧ Joins w l a b
  ends_removed : ∀ l ∈ J, w'.ends l = []
  links : ∀ v, w'.links v = (w.links v).filter (fun l => !(J.contains l))
  ends_kept : ∀ l, l ∉ J → w'.ends l = w.ends l
  frame : AssocFrame w w'
  inv : Inv w'

/-- everything the C03 / C09 clauses about `explicit.unlink` need; only the links of `a` have to
    be proper two-ended links (they are what `find_links(a, b)` walks) -/
theorem unlink_core (F : Nat → LId → Option VId → Bool) (w : World) (a b : VId)
    (h : Inv w) (ht : TwoEndedAt w a) (ha : w.vOK a = true) (hb : w.vOK b = true) :
    ∃ w' J, Unlinked F w a b w' J := by
  obtain ⟨J, hJ, hn, hm⟩ := M.findLinks_unlink w F a b ht
  obtain ⟨f1, f2, f3⟩ := S.foldl_unlinkPair a b J w
  have hstep : ∀ d, M.step F w (.unlink a b d) =
      (J.foldl (S.unlinkPair a b) w, if d then .nothing else .links J) := by
    intro d
    rw [step_agree F w _ h]
    simp only [S.step, C.step, ha, hb, Bool.not_true, Bool.or_self, Bool.false_eq_true, ↓reduceIte,
      C.unlink, hJ, S.unlinkEach_eq]
  have hi : Inv (J.foldl (S.unlinkPair a b) w) := by
    have := step_inv F w (.unlink a b true) h
    rwa [← step_agree F w _ h, hstep true] at this
  -- a link that joins `a` and `b` has no other end
  have hends : ∀ l, (J.foldl (S.unlinkPair a b) w).ends l = if l ∈ J then [] else w.ends l := by
    intro l
    rw [f3 l]
    split
    · rename_i hl
      rcases ((hm l).mp hl).2 with he | he <;> rw [he] <;> simp
    · rfl
  refine ⟨_, J, hstep, hn, hm, fun l hl => by rw [hends, if_pos hl], fun v => ?_,
    fun l hl => by rw [hends, if_neg hl], f1, hi⟩
  -- `links v` can only have lost links, and which it still has the ends say (`Sym` afterwards)
  rw [Sublist.eq_filter (f2 v) (h.sym.nodup v)]
  refine List.filter_congr fun l hl => ?_
  by_cases hlJ : l ∈ J <;> simp [hi.sym.iff, hends, hlJ, (h.sym.iff v l).mp hl]

end EG
