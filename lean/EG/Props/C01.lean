import EG.Proofs.Inv
/-
  C01 — Vertex-link association is symmetric and duplicate-free after every history.
  Property theorems only; helper lemmas live in EG/Proofs.
-/
namespace EG

/-- after every prefix of every history of public calls (over every aliasing of their
    arguments: ids are arbitrary naturals) the association is symmetric and duplicate-free -/
theorem C01_all_histories (F : Nat → LId → Option VId → Bool) (ops : List Op) (k : Nat) :
    Sym (M.run F (ops.take k)).1 := (run_agree F (ops.take k)).2.sym

/-- a call that raises (or is rejected as ill-formed) leaves the world exactly as it was -/
theorem C01_raise_no_effect (F : Nat → LId → Option VId → Bool) (w : World) (op : Op) :
    (∃ e, (M.step F w op).2 = .err e) ∨ (M.step F w op).2 = .bad → (M.step F w op).1 = w :=
  C.step_raise M.prims F w op

/-- non-vacuity: a history with a self-loop, a parallel pair, a half-assigned edge and a
    vertex listed twice by an n-ary link reaches a world with non-empty association -/
example : let w := (M.run (fun _ _ _ => true)
    [.newVertex .V [] [] [], .newVertex .V [] [] [], .newEdge .D (some 0) (some 0),
     .newEdge .D (some 0) (some 1), .newEdge .U (some 0) (some 1), .newEdge .X (some 1) none,
     .newNLink [some 0, some 0, some 1], .setV2 0 (some 1)]).1
    w.links 0 = [0, 1, 2, 4] ∧ w.ends 0 = [some 0, some 1] ∧ w.links 1 = [1, 2, 3, 4, 0] := by
  decide

end EG
