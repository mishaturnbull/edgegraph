import EG.Proofs.Inv
/-
  C02 — Universe membership is symmetric, ordered and duplicate-free after every history.
-/
namespace EG

theorem C02_all_histories (F : Nat → LId → Option VId → Bool) (ops : List Op) (k : Nat) :
    USym (M.run F (ops.take k)).1 := (run_agree F (ops.take k)).2.usym

/-- removing a non-member raises ValueError and changes nothing (from either side) -/
theorem C02_remove_nonmember (F : Nat → LId → Option VId → Bool) (w : World) (u v : VId)
    (h : Inv w) (hu : w.isUni u = true) (hv : w.vOK v = true) (hm : v ∉ w.members u) :
    M.step F w (.uniRemove u v) = (w, .err .value) ∧ M.step F w (.vRemove v u) = (w, .err .value) := by
  have hm' : u ∉ w.unis v := fun hc => hm ((h.usym.iff v u).mpr hc)
  rw [step_agree F w _ h, step_agree F w _ h]
  simp [S.step, C.step, S.prims, C.ofExc, hu, hv, hm, hm']

/-- insertion order: a successful add appends at the END of the member list and touches no
    other universe's list -/
theorem C02_add_appends (F : Nat → LId → Option VId → Bool) (w : World) (u v : VId)
    (h : Inv w) (hu : w.isUni u = true) (hv : w.vOK v = true) (hm : v ∉ w.members u) :
    (M.step F w (.uniAdd u v)).1.members u = w.members u ++ [v] ∧
    (M.step F w (.vAdd v u)).1.members u = w.members u ++ [v] ∧
    ∀ u', u' ≠ u → (M.step F w (.uniAdd u v)).1.members u' = w.members u' ∧
                    (M.step F w (.vAdd v u)).1.members u' = w.members u' := by
  rw [step_agree F w _ h, step_agree F w _ h]
  simp [S.step, C.step, S.prims, C.ofOpt, hu, hv, hm, S.uniAddVertex, S.addToUniverse]
  intro u' hu'; simp [hu']

/-- adding a present member changes nothing -/
theorem C02_add_present (F : Nat → LId → Option VId → Bool) (w : World) (u v : VId)
    (h : Inv w) (hu : w.isUni u = true) (hv : w.vOK v = true) (hm : v ∈ w.members u) :
    (M.step F w (.uniAdd u v)).1.members = w.members ∧ (M.step F w (.uniAdd u v)).1.unis = w.unis ∧
    (M.step F w (.vAdd v u)).1.members = w.members ∧ (M.step F w (.vAdd v u)).1.unis = w.unis := by
  have hm' : u ∈ w.unis v := (h.usym.iff v u).mp hm
  rw [step_agree F w _ h, step_agree F w _ h]
  simp [S.step, C.step, S.prims, C.ofOpt, hu, hv, hm, hm', S.uniAddVertex, S.addToUniverse]

/-- a removal only deletes: the remaining members keep their relative order -/
theorem C02_remove_keeps_order (F : Nat → LId → Option VId → Bool) (w : World) (u v : VId)
    (h : Inv w) (hu : w.isUni u = true) (hv : w.vOK v = true) (hm : v ∈ w.members u) :
    (M.step F w (.uniRemove u v)).1.members u = (w.members u).erase v ∧
    (M.step F w (.vRemove v u)).1.members u = (w.members u).erase v := by
  have hm' : u ∈ w.unis v := (h.usym.iff v u).mp hm
  rw [step_agree F w _ h, step_agree F w _ h]
  simp [S.step, C.step, S.prims, C.ofExc, hu, hv, hm, hm', S.uniRemoveVertex, S.removeFromUniverse]

set_option linter.unusedVariables false in
/-- operations that are not membership operations or constructors never change membership
    (`h : Inv w` is not needed — the frames of `M.prims` hold on every world — and only records that
    the theorem is meant for reachable worlds) -/
theorem C02_frame (F : Nat → LId → Option VId → Bool) (w : World) (op : Op) (h : Inv w)
    (hop : match op with
      | .newVertex .. | .newUniverse .. | .uniAdd .. | .uniRemove .. | .vAdd .. | .vRemove .. => False
      | _ => True) :
    (M.step F w op).1.members = w.members ∧ (M.step F w op).1.unis = w.unis := by
  refine C.step_membership M.prims_framePres F w op ?_
  cases op <;> first | exact hop.elim | trivial

/-- `universes=` / `vertices=` with duplicates: stored once each, first occurrence order -/
theorem C02_ctor_dedup (F : Nat → LId → Option VId → Bool) (w : World) (c : VCls)
    (attrs : List (Nat × Nat)) (us : List VId) (h : Inv w)
    (hc : c ≠ .UNI) (hus : us.all w.isUni = true) :
    (M.step F w (.newVertex c attrs [] us)).1.unis w.nV = dedupKeepFirst us := by
  rw [step_agree F w _ h]
  have hus' : ∀ u ∈ us, u < w.nV := by
    simp only [List.all_eq_true] at hus
    exact fun u hu => isUni_lt (hus u hu)
  obtain ⟨w', e, _, h2⟩ := C.newVertex_S w c attrs [] us h (by simp) hus'
  have hc' : (c == VCls.UNI) = false := by cases c <;> simp at hc ⊢
  simp only [S.step, C.step, hc', hus, e, List.all_nil]
  exact h2

end EG
