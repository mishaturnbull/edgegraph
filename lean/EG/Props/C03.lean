import EG.Proofs.BuildLemmas
/-
  C03 — every mutation has exactly its documented effect and no other: the mirror model
  (what is compared with the code) equals the plain reference model S on every history,
  worlds and return values alike; frame corollaries are read off S's closed forms.
-/
namespace EG

/-- replaying any history: same world (every field, caches included) and same answers -/
theorem C03_refinement (F : Nat → LId → Option VId → Bool) (ops : List Op) :
    M.run F ops = S.run F ops := (run_agree F ops).1

/-- assigning v1/v2 (idx 0/1) of a link with both ends present: that entry, and only that
    entry, becomes the assigned vertex; every other link's ends, every universe membership,
    and the ordered `links` of every vertex other than the previous and the new end are
    untouched -/
theorem C03_setEnd_frame (F : Nat → LId → Option VId → Bool) (w : World) (l : LId) (x : Option VId)
    (idx : Nat) (hidx : idx = 0 ∨ idx = 1)
    (h : Inv w) (hl : w.twoEnded l = true) (hx : w.ovOK x = true) (hlen : 2 ≤ (w.ends l).length) :
    let w' := (M.step F w (if idx = 0 then .setV1 l x else .setV2 l x)).1
    w'.ends l = (w.ends l).set idx x ∧
    (∀ l', l' ≠ l → w'.ends l' = w.ends l') ∧
    (∀ v, some v ≠ (w.ends l).getD idx none → some v ≠ x → w'.links v = w.links v) ∧
    w'.members = w.members ∧ w'.unis = w.unis ∧ w'.laws = w.laws := by
  simp only [step_setEnd F w l x idx hidx h hl hx hlen, S.replaceEnd, if_true]
  refine ⟨trivial, fun l' hl' => if_neg hl', fun v h1 h2 => ?_, trivial, trivial, trivial⟩
  rw [List.getD_eq_getElem?_getD] at h1
  simp [h1, h2]

/-- the previous vertex is detached only if it is no longer an end; if it still is, its
    ordered links are exactly as before -/
theorem C03_setEnd_keeps_if_still_end (F : Nat → LId → Option VId → Bool) (w : World) (l : LId)
    (x : Option VId) (idx : Nat) (hidx : idx = 0 ∨ idx = 1) (o : VId)
    (h : Inv w) (hl : w.twoEnded l = true) (hx : w.ovOK x = true) (hlen : 2 ≤ (w.ends l).length)
    (ho : (w.ends l).getD idx none = some o) (hstill : some o ∈ (w.ends l).set idx x) :
    (M.step F w (if idx = 0 then .setV1 l x else .setV2 l x)).1.links o = w.links o := by
  have hmem : some o ∈ w.ends l := by
    have hi : idx < (w.ends l).length := by omega
    rw [← ho, List.getD_eq_getElem?_getD, List.getElem?_eq_getElem hi]
    simp
  have hlk : l ∈ w.links o := (h.sym.iff o l).mpr hmem
  simp [step_setEnd F w l x idx hidx h hl hx hlen, S.replaceEnd, hstill, hlk]

/-- end assignment on an edge that has lost an end raises IndexError and changes nothing -/
theorem C03_setEnd_lost_end (F : Nat → LId → Option VId → Bool) (w : World) (l : LId) (x : Option VId)
    (hl : w.twoEnded l = true) (hx : w.ovOK x = true) (hlen : (w.ends l).length < 2) :
    M.step F w (.setV1 l x) = (w, .err .index) ∧ M.step F w (.setV2 l x) = (w, .err .index) := by
  simp [M.step, C.step, hl, hx, C.setEnd, hlen, C.ofExc]

/-- creating an edge appends it to the links of both ends (once for a self-loop), in
    v1-then-v2 order, and touches no other vertex and no other link -/
theorem C03_newEdge_appends (F : Nat → LId → Option VId → Bool) (w : World) (c : LCls) (a b : VId)
    (h : Inv w) (hc : c.kind ≠ .nary) (ha : w.vOK a = true) (hb : w.vOK b = true) :
    let r := M.step F w (.newEdge c (some a) (some b))
    r.2 = .link w.nL ∧ r.1.ends w.nL = [some a, some b] ∧
    r.1.links a = w.links a ++ [w.nL] ∧ r.1.links b = w.links b ++ [w.nL] ∧
    (∀ v, v ≠ a → v ≠ b → r.1.links v = w.links v) ∧
    (∀ l', l' ≠ w.nL → r.1.ends l' = w.ends l') := by
  simp only [B.step_newEdge F w c a b hc ha hb, B.linkW_links w c a b h, B.linkW_ends]
  refine ⟨trivial, if_pos trivial, if_pos (.inl trivial), if_pos (.inr trivial), ?_, ?_⟩
  · intro v hva hvb
    have hv : ¬ (a = v ∨ b = v) := fun e => e.elim (fun e => hva e.symm) (fun e => hvb e.symm)
    exact if_neg hv
  · intro l' hl'
    exact if_neg hl'

/-- dontdup=True creates nothing when a joining link already exists: it returns the first
    link of `a` whose other end is `b`, and the world is unchanged -/
theorem C03_dontdup_creates_nothing (F : Nat → LId → Option VId → Bool) (w : World) (c : LCls)
    (a b : VId) (l : LId)
    (hc : c.kind ≠ .nary) (ha : w.vOK a = true) (hb : w.vOK b = true)
    (hj : M.firstJoining w a b (w.links a) = .ok (some l)) :
    M.step F w (.linkFromTo a c b true) = (w, .link l) := by
  have hc' : (c.kind == Kind.nary) = false := by simpa using hc
  simp [M.step, C.step, hc', ha, hb, C.linkFromTo, hj]

end EG
