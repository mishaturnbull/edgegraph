import EG.Proofs.QueryLemmas
import EG.Props.C04Table
/-
  C04 (part 2: general theorems on the mirror model) — `neighbors()` follows exactly the
  documented direction / unknown-type / filter rules, for every world, vertex and setting.
  Property theorems only; helpers in EG/Proofs/QueryLemmas.lean.
-/
namespace EG
open Tab

/-- the per-link rule, for every world: a two-ended link with ends `[a, b]`, one of which is
    `v`, contributes exactly what the statement says (class by kind, direction by position,
    unknown classes by `unknown_handling`, and a filter, if given, must accept — whatever the
    class) -/
theorem C04_link_rule (w : World) (F : Nat → LId → Option VId → Bool) (v : VId) (dir unk : Nat)
    (filt : Option Nat) (l : LId) (a b : Option VId)
    (he : w.ends l = [a, b]) (hk : (w.lcls l).kind ≠ .nary) (hv : a = some v ∨ b = some v) :
    linkOut w F v dir unk filt l =
      specNbG (w.lcls l).kind (posOf a b v) dir unk (filtOf F filt l (otherOf a b v)) (otherOf a b v) :=
  linkOut_rule w F v dir unk filt l a b he hk hv

/-- order and multiplicity: the answer is the in-order concatenation of the per-link
    contributions over `v.links` (one entry per qualifying link; parallel edges repeat; a
    self-loop yields `v` once), and the first raising link aborts the call -/
theorem C04_order_and_multiplicity (w : World) (F : Nat → LId → Option VId → Bool) (v : VId)
    (dir unk : Nat) (filt : Option Nat) :
    M.neighborsPure w F v dir unk filt = collect w F v dir unk filt (w.links v) := by
  rw [M.neighborsPure_eq]
  induction w.links v with
  | nil => rfl
  | cons l ls ih =>
    rw [collect, linkOut_eq, ← ih, M.nbFold]
    cases M.nbOne w F v dir unk filt l with
    | emit x => cases M.nbFold (M.nbOne w F v dir unk filt) ls <;> rfl
    | _ => rfl

/-- a filter only restricts: same raise behaviour, and the filtered answer is a sublist of the
    unfiltered one -/
theorem C04_filter_restricts (w : World) (F : Nat → LId → Option VId → Bool) (v : VId)
    (dir unk : Nat) (k : Nat) :
    (∀ e, M.neighborsPure w F v dir unk (some k) = .error e ↔ M.neighborsPure w F v dir unk none = .error e) ∧
    (∀ r r0, M.neighborsPure w F v dir unk (some k) = .ok r → M.neighborsPure w F v dir unk none = .ok r0 →
      r.Sublist r0) := by
  simp only [M.neighborsPure_eq]
  exact M.nbFold_restrict _ _ _ (M.nbOne_filter w F v dir unk k)

set_option linter.unusedVariables false in
/-- FORWARD / BACKWARD duality: `t` occurs k times among the FORWARD neighbours of `v` exactly
    when `v` occurs k times among the BACKWARD neighbours of `t`.  The statement carries
    `hv ht : TwoEndedAt` without need: `fwd_bwd_duality` holds for links of any class and arity. -/
theorem C04_fwd_bwd_duality (w : World) (F : Nat → LId → Option VId → Bool) (v t : VId) (unk : Nat)
    (hs : Sym w) (hv : TwoEndedAt w v) (ht : TwoEndedAt w t)
    (r1 r2 : List (Option VId))
    (h1 : M.neighborsPure w F v 0 unk none = .ok r1) (h2 : M.neighborsPure w F t 2 unk none = .ok r2) :
    r1.count (some t) = r2.count (some v) :=
  fwd_bwd_duality w F v t unk hs r1 r2 h1 h2

/-- non-vacuity: a vertex with a parallel pair, a self-loop and an incoming edge -/
example :
    let w := (M.run (fun _ _ _ => true)
      [.newVertex .V [] [] [], .newVertex .V [] [] [], .newEdge .D (some 0) (some 1),
       .newEdge .U (some 0) (some 1), .newEdge .D (some 0) (some 0), .newEdge .D (some 1) (some 0),
       .newEdge .X (some 0) (some 1)]).1
    M.neighborsPure w (fun _ _ _ => true) 0 0 1 none = .ok [some 1, some 1, some 0, some 1] ∧
    M.neighborsPure w (fun _ _ _ => true) 1 2 1 none = .ok [some 0, some 0, some 0] ∧
    M.neighborsPure w (fun _ _ _ => true) 0 0 2 none = .error .notImpl := by
  intro w; exact ⟨by rfl, by rfl, by rfl⟩

end EG
