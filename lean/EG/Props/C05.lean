import EG.Proofs.CacheLemmas
/-
  C05 — neighbor caching is transparent: cached answers always equal recomputed ones, at
  every point of every history that interleaves mutations, queries and flag toggles.
  Property theorems only; helpers in EG/Proofs/CacheLemmas.lean.
-/
namespace EG

/-- transparency: with or without the flag, `neighbors()` answers what a recomputation gives -/
theorem C05_transparent (F : Nat → LId → Option VId → Bool) (w : World) (v : VId) (dir unk : Nat)
    (filt : Option Nat) (h : CacheOK F w) :
    (M.neighbors w F v dir unk filt none).2 = M.neighborsPure w F v dir unk filt :=
  (neighbors_memo F w v dir unk filt none h).2.2 rfl

/-- arguments that cannot serve as a memo key (an unhashable filter callable): the query is
    answered by recomputation whether the flag is on or off — the hash's TypeError does not
    surface — and the world, memos included, is left exactly as it was -/
theorem C05_unhashable_never_cached (F : Nat → LId → Option VId → Bool) (w : World) (v : VId)
    (dir unk : Nat) (filt fault : Option Nat) (h : M.unhashable filt = true) :
    (M.neighbors w F v dir unk filt fault).1 = w ∧
    (M.neighbors w F v dir unk filt none).2 = M.neighborsPure w F v dir unk filt := by
  simp [C.neighbors_eq, h, M.neighborsPure]

/-- a query (even one whose filter raises at its `k`-th invocation) touches nothing but the
    memo of the queried vertex, and keeps every memo correct -/
theorem C05_query_preserves (F : Nat → LId → Option VId → Bool) (w : World) (v : VId) (dir unk : Nat)
    (filt : Option Nat) (fault : Option Nat) (h : CacheOK F w) :
    let w' := (M.neighbors w F v dir unk filt fault).1
    CacheOK F w' ∧ w'.links = w.links ∧ w'.ends = w.ends ∧ w'.lcls = w.lcls ∧
    w'.members = w.members ∧ w'.unis = w.unis ∧ w'.laws = w.laws ∧ w'.appliesTo = w.appliesTo ∧
    w'.attrs = w.attrs ∧ w'.caching = w.caching ∧ (∀ x, x ≠ v → w'.cache x = w.cache x) := by
  obtain ⟨_, _, _, _, hl, he, hc, hm, hu, hL, ha, _, hat, hf⟩ :=
    neighbors_sameGraph F w v dir unk filt fault
  obtain ⟨hk, hx, _⟩ := neighbors_memo F w v dir unk filt fault h
  exact ⟨hk, hl, he, hc, hm, hu, hL, ha, hat, hf, hx⟩

/-- every public call — whichever mutator, on whichever object, flag on or off — keeps every
    memo correct -/
theorem C05_step_preserves (F : Nat → LId → Option VId → Bool) (w : World) (op : Op)
    (hi : Inv w) (h : CacheOK F w) : CacheOK F (M.step F w op).1 := by
  rw [step_agree F w op hi]
  exact (C.step_sim S.prims_framePres (neighbors_inv_cache F) (sim_cache F) w op ⟨hi, h⟩).2.2

theorem C05_all_histories (F : Nat → LId → Option VId → Bool) (ops : List Op) (k : Nat) :
    CacheOK F (M.run F (ops.take k)).1 :=
  run_cache F (ops.take k)

/-- consequence: at any point of any history, a `neighbors()` call answers exactly what it
    would answer with caching disabled -/
theorem C05_answers_transparent (F : Nat → LId → Option VId → Bool) (ops : List Op) (v : VId)
    (dir unk : Nat) (filt : Option Nat) :
    let w := (M.run F ops).1
    (M.neighbors w F v dir unk filt none).2 = (M.neighbors { w with caching := false } F v dir unk filt none).2 := by
  intro w
  have hk : CacheOK F w := run_cache F ops
  rw [C05_transparent F w v dir unk filt hk,
    C05_transparent F _ v dir unk filt (cacheOK_flagOff F w hk)]
  exact (neighborsPure_congr w { w with caching := false } F v dir unk filt rfl
    (fun _ _ => ⟨rfl, rfl⟩)).symm

/-- non-vacuity: a memo is written, and a mutation of the OTHER end while the flag is off
    invalidates it -/
example :
    let F : Nat → LId → Option VId → Bool := fun _ _ _ => true
    let w0 := (M.run F [.newVertex .V [] [] [], .newVertex .V [] [] [], .flag true,
       .newEdge .D (some 0) (some 1), .neighbors 0 0 2 none none, .flag false]).1
    (w0.cache 0).length = 1 ∧ ((M.step F w0 (.setV2 0 (some 0))).1.cache 0).length = 0 := by
  intro F w0; exact ⟨by decide +kernel, by decide +kernel⟩

end EG
