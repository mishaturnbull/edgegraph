import EG.Proofs.CopyLemmas
import EG.Props.C05
import EG.Props.C05Trav
/-
  C05, last clause — "… and whether the graph was built in this interpreter or un-pickled into a
  fresh one."  The un-pickled graph is an isomorphic copy (`EG.Copy`: every object renamed, every
  ordered container in the same order, the memo tables carried along with their vertices, the
  caching flag whatever it is in the loading interpreter).  The property theorems, the hypothesis
  they share (`Renaming.Keeps`) and `inv_copy`, which the whole-history clause stands on; helpers in
  EG/Proofs/CopyLemmas.lean.
-/
namespace EG

variable (r : Renaming)

/-- a recomputation on the copy answers the renamed answer of the original (or raises the same) -/
theorem C05_copy_recomputes (hb : r.Bij) (w : World) (flag : Bool) (F : Nat → LId → Option VId → Bool)
    (v : VId) (dir unk : Nat) (filt : Option Nat) :
    M.neighborsPure (w.copy r flag) (copyF r F) (r.ρ v) dir unk filt
      = (M.neighborsPure w F v dir unk filt).map r.ans :=
  neighborsPure_copy r hb w flag F v dir unk filt

/-- memo tables that were correct before pickling are correct in the copy, whatever the flag is
    there: a warm memo that crossed the pickle boundary answers what a recomputation on the
    un-pickled graph answers -/
theorem C05_copy_cacheOK (hb : r.Bij) (w : World) (flag : Bool) (F : Nat → LId → Option VId → Bool)
    (h : CacheOK F w) : CacheOK (copyF r F) (w.copy r flag) := by
  intro v key ans hl
  rw [← hb.vr v, copy_cache r hb, cacheLookup_copy] at hl
  obtain ⟨a, hc, rfl⟩ := Option.map_eq_some_iff.mp hl
  rw [← hb.vr v, neighborsPure_copy r hb, h _ key a hc]
  rfl

/-- so every `neighbors()` call on the un-pickled graph — flag on or off there — answers the
    renamed recomputation of the original -/
theorem C05_unpickled_transparent (hb : r.Bij) (w : World) (flag : Bool)
    (F : Nat → LId → Option VId → Bool) (h : CacheOK F w) (v : VId) (dir unk : Nat) (filt : Option Nat) :
    (M.neighbors (w.copy r flag) (copyF r F) (r.ρ v) dir unk filt none).2
      = (M.neighborsPure w F v dir unk filt).map r.ans := by
  rw [C05_transparent (copyF r F) (w.copy r flag) (r.ρ v) dir unk filt (C05_copy_cacheOK r hb w flag F h)]
  exact neighborsPure_copy r hb w flag F v dir unk filt

/-- the renaming keeps unused names unused (it permutes the objects that exist) -/
structure Renaming.Keeps (w : World) : Prop where
  bij : r.Bij
  v : ∀ x, w.nV ≤ x → w.nV ≤ r.ρ' x
  l : ∀ x, w.nL ≤ x → w.nL ≤ r.σ' x

/-- the copy of a world that satisfies the association invariants satisfies them -/
theorem inv_copy (w : World) (flag : Bool) (hk : r.Keeps w) (hi : Inv w) : Inv (w.copy r flag) := by
  obtain ⟨⟨hs1, hs2⟩, ⟨hu1, hu2, hu3⟩, hl, hf1, hf2, hf3⟩ := hi
  have hb := hk.bij
  refine ⟨⟨?_, ?_⟩, ⟨?_, ?_, ?_⟩, ?_, ?_, ?_, ?_⟩
  · intro v l
    simp only [World.copy]
    rw [mem_map_inv hb.ll hb.lr, mem_map_inv (optmap_inv hb.vl) (optmap_inv hb.vr)]
    exact hs1 _ _
  · intro v; simp only [World.copy]; exact nodup_map_inv hb.ll (hs2 _)
  · intro v u
    simp only [World.copy]
    rw [mem_map_inv hb.vl hb.vr, mem_map_inv hb.vl hb.vr]
    exact hu1 _ _
  · intro u; simp only [World.copy]; exact nodup_map_inv hb.vl (hu2 _)
  · intro v; simp only [World.copy]; exact nodup_map_inv hb.vl (hu3 _)
  · intro u L
    simp only [World.copy]
    rw [hl (r.ρ' u) L, ← optmap_eq_some hb, hb.vr]
  · intro l h; simp only [World.copy]; rw [hf1 _ (hk.l l h)]; rfl
  · intro v h
    simp only [World.copy]
    obtain ⟨a, b, c, d⟩ := hf2 _ (hk.v v h)
    rw [a, b, c, d]; exact ⟨rfl, rfl, rfl, rfl⟩
  · intro L h; simp only [World.copy]; rw [hf3 L h]; rfl

/-- **the un-pickled clause for whole histories**: build a graph by any history (mutations, flag
    toggles, queries, traversals, searches — memos warm or not), pickle and load it (any renaming of
    the objects, any value of the flag in the loading interpreter), continue with any history
    there: after every prefix the association invariants hold and every memo — those that crossed
    the pickle boundary and those written since — equals a recomputation -/
theorem C05_histories_across_pickling (F : Nat → LId → Option VId → Bool)
    (R R' : Nat → Option VId → Bool) (ops1 ops2 : List XOp) (flag : Bool) (k : Nat)
    (hk : r.Keeps (M.runX F R ops1).1) :
    let w' := (M.runFromX (copyF r F) R' ((M.runX F R ops1).1.copy r flag) (ops2.take k)).1
    Inv w' ∧ CacheOK (copyF r F) w' := by
  intro w'
  have h1 := (runFromX_keeps F R ops1 World.init ⟨inv_init, cacheOK_init F⟩).1
  exact (runFromX_keeps (copyF r F) R' (ops2.take k) _ ⟨inv_copy r _ flag hk h1.1,
    C05_copy_cacheOK r hk.bij _ flag F h1.2⟩).1

/-- consequence: at every point of every history continued in the loading interpreter, every
    traversal and every search — all their `neighbors()` calls going through the memos, those that
    crossed the boundary included — answers what the memo-free descriptions say -/
theorem C05_unpickled_traversals_transparent (F : Nat → LId → Option VId → Bool)
    (R R' : Nat → Option VId → Bool) (ops1 ops2 : List XOp) (flag : Bool)
    (hk : r.Keeps (M.runX F R ops1).1) (ffr : Nat → Bool)
    (kind : TO.TravKind) (uni : Option VId) (start : VId) (dir unk : Nat) (via : Option Nat)
    (skind : TO.SearchKind) (attr val : Nat) :
    let w' := (M.runFromX (copyF r F) R' ((M.runX F R ops1).1.copy r flag) ops2).1
    (TS.traverse w' (copyF r F) ffr kind uni start dir unk via).2
        = TO.traverse w' (copyF r F) ffr kind uni start dir unk via ∧
    (TS.search w' (copyF r F) skind uni start attr val).2 = TO.search w' (copyF r F) skind uni start attr val := by
  intro w'
  have hk' : CacheOK (copyF r F) w' := by
    have := (C05_histories_across_pickling r F R R' ops1 ops2 flag ops2.length hk).2
    rwa [List.take_length] at this
  exact ⟨C05_traversal_transparent (copyF r F) w' ffr kind uni start dir unk via hk',
    C05_search_transparent (copyF r F) w' skind uni start attr val hk'⟩

/-- the harness's `reload` operation (the caller pickles / deep-copies the graph and goes on with the copy, naming
    the copies as it named the originals) is the copy under the identity renaming: the same world -/
theorem C05_reload_is_identity (w : World) :
    w.copy ⟨id, id, id, id⟩ w.caching = w := by
  simp only [World.copy, Renaming.ans, id, Option.map_id_fun, List.map_id_fun, List.map_id']

/-- non-vacuity: a warm memo crosses the boundary (vertices 0, 1 swapped by the renaming, caching
    switched OFF while loading and ON again later) and is found, renamed, in the copy -/
example :
    let F : Nat → LId → Option VId → Bool := fun _ _ _ => true
    let r : Renaming := ⟨fun v => if v = 0 then 1 else if v = 1 then 0 else v,
                         fun v => if v = 0 then 1 else if v = 1 then 0 else v, id, id⟩
    let w := (M.run F [.newVertex .V [] [] [], .newVertex .V [] [] [], .flag true,
       .newEdge .D (some 0) (some 1), .neighbors 0 0 2 none none]).1
    (w.cache 0) = [(⟨0, 2, none⟩, [some 1])] ∧ ((w.copy r false).cache 1) = [(⟨0, 2, none⟩, [some 0])] ∧
    (M.neighbors (w.copy r true) (copyF r F) 1 0 2 none none).2 = .ok [some 0] := by
  intro F r w; exact ⟨by decide +kernel, by decide +kernel, by decide +kernel⟩

end EG
