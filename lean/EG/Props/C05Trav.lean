import EG.Proofs.TravStateLemmas
/-
  C05 / C13 for the traversal and search ENTRY POINTS, on the model in which they really go
  through `neighbors()` and its memo (EG.TravState, EG.StepX).

  C05: "every traversal and every search returns exactly what it would return with caching
        disabled, at every point of every history that interleaves mutations with queries".
  C13: "all traversals and searches leave every vertex, link and universe observably unchanged".
  Property theorems only; helpers in EG/Proofs/TravStateLemmas.lean.
-/
namespace EG

/-- a traversal (bft, dft_recursive, dft_iterative; list or generator form), made on a world
    whose memos are correct, lists exactly what the memo-free description `TO.traverse` lists —
    the object of the C06 / C07 theorems — and raises exactly when that does -/
theorem C05_traversal_transparent (F : Nat → LId → Option VId → Bool) (w : World) (ffr : Nat → Bool)
    (kind : TO.TravKind) (uni : Option VId) (start : VId) (dir unk : Nat) (via : Option Nat)
    (h : CacheOK F w) :
    (TS.traverse w F ffr kind uni start dir unk via).2 = TO.traverse w F ffr kind uni start dir unk via :=
  (TS.traverse_spec w F ffr kind uni start dir unk via h).1

/-- … and each search returns what the memo-free description `TO.search` returns -/
theorem C05_search_transparent (F : Nat → LId → Option VId → Bool) (w : World)
    (kind : TO.SearchKind) (uni : Option VId) (start : VId) (attr val : Nat) (h : CacheOK F w) :
    (TS.search w F kind uni start attr val).2 = TO.search w F kind uni start attr val :=
  (TS.search_spec w F kind uni start attr val h).1

/-- with the flag on or off the same listing: the call on `w` and the call on `w` with
    `NEIGHBOR_CACHING` switched off answer identically -/
theorem C05_traversal_flag_irrelevant (F : Nat → LId → Option VId → Bool) (w : World) (ffr : Nat → Bool)
    (kind : TO.TravKind) (uni : Option VId) (start : VId) (dir unk : Nat) (via : Option Nat)
    (h : CacheOK F w) :
    (TS.traverse w F ffr kind uni start dir unk via).2 =
      (TS.traverse { w with caching := false } F ffr kind uni start dir unk via).2 := by
  rw [C05_traversal_transparent F w ffr kind uni start dir unk via h,
    C05_traversal_transparent F _ ffr kind uni start dir unk via (cacheOK_flagOff F w h)]
  exact TO.traverse_congr _ F w ffr kind uni start dir unk via rfl rfl rfl rfl rfl

theorem C05_search_flag_irrelevant (F : Nat → LId → Option VId → Bool) (w : World)
    (kind : TO.SearchKind) (uni : Option VId) (start : VId) (attr val : Nat) (h : CacheOK F w) :
    (TS.search w F kind uni start attr val).2 =
      (TS.search { w with caching := false } F kind uni start attr val).2 := by
  rw [C05_search_transparent F w kind uni start attr val h,
    C05_search_transparent F _ kind uni start attr val (cacheOK_flagOff F w h)]
  exact TO.search_congr _ F w kind uni start attr val rfl rfl rfl rfl rfl rfl

/-- a traversal or search leaves the graph as it was (C13) and every memo correct (C05),
    whatever it listed and whether or not a `neighbors()` call raised on the way -/
theorem C13_traversal_readonly (F : Nat → LId → Option VId → Bool) (w : World) (ffr : Nat → Bool)
    (kind : TO.TravKind) (uni : Option VId) (start : VId) (dir unk : Nat) (via : Option Nat)
    (h : CacheOK F w) :
    SameGraph w (TS.traverse w F ffr kind uni start dir unk via).1 ∧
    CacheOK F (TS.traverse w F ffr kind uni start dir unk via).1 :=
  (TS.traverse_spec w F ffr kind uni start dir unk via h).2

theorem C13_search_readonly (F : Nat → LId → Option VId → Bool) (w : World)
    (kind : TO.SearchKind) (uni : Option VId) (start : VId) (attr val : Nat) (h : CacheOK F w) :
    SameGraph w (TS.search w F kind uni start attr val).1 ∧
    CacheOK F (TS.search w F kind uni start attr val).1 :=
  (TS.search_spec w F kind uni start attr val h).2

/-- `basic_render` (which asks `neighbors()` for every member, through the memo) returns exactly
    the string the memo-free description `R.basicRender` gives — the object of the C16 theorems —
    with caching on or off, … -/
theorem C05_render_transparent (F : Nat → LId → Option VId → Bool) (w : World) (u : VId) (rf : R.RFun)
    (sort : Option (Option VId → Nat)) (h : CacheOK F w) :
    (R.basicRenderS w F u rf sort).2 = R.basicRender w F u rf sort :=
  (R.basicRenderS_spec w F u rf sort h).1

/-- … leaves the graph as it was, every memo correct — also when a `neighbors()` call raises
    half-way through the universe -/
theorem C13_render_readonly (F : Nat → LId → Option VId → Bool) (w : World) (u : VId) (rf : R.RFun)
    (sort : Option (Option VId → Nat)) (h : CacheOK F w) :
    SameGraph w (R.basicRenderS w F u rf sort).1 ∧ CacheOK F (R.basicRenderS w F u rf sort).1 :=
  (R.basicRenderS_spec w F u rf sort h).2

/-- after every prefix of every history that interleaves constructions, mutations, flag
    toggles, `neighbors`, `find_links`, TRAVERSALS and SEARCHES: the association invariants hold
    and every memo equals a recomputation -/
theorem C05_all_histories_with_traversals (F : Nat → LId → Option VId → Bool)
    (R : Nat → Option VId → Bool) (ops : List XOp) (k : Nat) :
    Inv (M.runX F R (ops.take k)).1 ∧ CacheOK F (M.runX F R (ops.take k)).1 :=
  (runFromX_keeps F R (ops.take k) World.init ⟨inv_init, cacheOK_init F⟩).1

/-- consequence: at any point of any such history every traversal and every search answers
    exactly what the memo-free descriptions say (for which C06, C07, C08 are proved) -/
theorem C05_history_traversal_answers (F : Nat → LId → Option VId → Bool)
    (R : Nat → Option VId → Bool) (ops : List XOp) (ffr : Nat → Bool)
    (kind : TO.TravKind) (uni : Option VId) (start : VId) (dir unk : Nat) (via : Option Nat)
    (skind : TO.SearchKind) (attr val : Nat) :
    let w := (M.runX F R ops).1
    (TS.traverse w F ffr kind uni start dir unk via).2 = TO.traverse w F ffr kind uni start dir unk via ∧
    (TS.search w F skind uni start attr val).2 = TO.search w F skind uni start attr val := by
  intro w
  have hk : CacheOK F w := (runFromX_keeps F R ops World.init ⟨inv_init, cacheOK_init F⟩).1.2
  exact ⟨C05_traversal_transparent F w ffr kind uni start dir unk via hk,
    C05_search_transparent F w skind uni start attr val hk⟩

/-- C13 over whole query sequences: a history extended by any number of `neighbors`,
    `find_links`, traversal and search calls (made on a reachable world) has the graph of the
    history itself -/
theorem C13_queries_invisible_x (F : Nat → LId → Option VId → Bool) (R : Nat → Option VId → Bool)
    (qs : List XOp) (hq : ∀ op ∈ qs, op.readOnly) :
    ∀ w, Inv w → CacheOK F w → SameGraph w (M.runFromX F R w qs).1 :=
  fun w hi hc => (runFromX_keeps F R qs w ⟨hi, hc⟩).2 hq

/-- non-vacuity: with caching on, a breadth-first traversal from V0 over V0→V1→V2 lists all
    three and leaves one memo entry on each vertex it expanded; a later `neighbors(V0)` is a hit -/
example :
    let F : Nat → LId → Option VId → Bool := fun _ _ _ => true
    let R : Nat → Option VId → Bool := fun _ _ => true
    let r := M.runX F R [.base (.newVertex .V [] [] []), .base (.newVertex .V [] [] []),
      .base (.newVertex .V [] [] []), .base (.flag true), .base (.newEdge .D (some 0) (some 1)),
      .base (.newEdge .D (some 1) (some 2)), .traverse .bft none 0 0 2 none none]
    r.2.getLast? = some (.listing [0, 1, 2] none) ∧
    (r.1.cache 0).length = 1 ∧ (r.1.cache 1).length = 1 ∧ (r.1.cache 2).length = 1 := by
  intro F R r
  refine ⟨?_, ?_, ?_, ?_⟩ <;> decide +kernel

end EG
