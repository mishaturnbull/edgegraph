import EG.Proofs.TravOrder
/-
  C06 — every traversal visits exactly the reachable in-universe vertices, once each.
  `nb` is the resolved `neighbors()` function under the chosen direction / unknown-handling /
  ff_via settings, `inU` the universe test (`fun _ => true` for `uni=None`), `ffr` the
  ff_result predicate.  Property theorems only.
-/
namespace EG
namespace T

variable (nb : Nat → List Nat) (inU : Nat → Bool) (ffr : Nat → Bool)

/-! ### ff_result only removes entries from the listing (any fuel, any graph) -/

theorem C06_ff_result_bft (f s : Nat) :
    bft nb inU ffr f s = (bft nb inU (fun _ => true) f s).filter ffr :=
  bft_ff

theorem C06_ff_result_dftRecursive (f s : Nat) :
    dftRecursive nb inU ffr f s = (dftRecursive nb inU (fun _ => true) f s).filter ffr :=
  dftRecursive_ff

theorem C06_ff_result_dftIterative (f s : Nat) :
    dftIterative nb inU ffr f s = (dftIterative nb inU (fun _ => true) f s).filter ffr :=
  dftIterative_ff

/-! ### termination: with enough fuel the result no longer depends on the fuel -/

theorem C06_bft_terminates (n : Nat) (hb : Bounded nb n) (s : Nat) (hs : s < n) (f : Nat)
    (hf : n + 1 ≤ f) : bft nb inU ffr f s = bft nb inU ffr (n + 1) s :=
  bft_fuel hb hs hf

theorem C06_dftRecursive_terminates (n : Nat) (hb : Bounded nb n) (s : Nat) (hs : s < n) (f : Nat)
    (hf : n + 1 ≤ f) : dftRecursive nb inU ffr f s = dftRecursive nb inU ffr (n + 1) s :=
  dftRecursive_fuel hb hs hf

theorem C06_dftIterative_terminates (n : Nat) (hb : Bounded nb n) (s : Nat) (hs : s < n) (f : Nat)
    (hf : n + degSum nb n + 2 ≤ f) :
    dftIterative nb inU ffr f s = dftIterative nb inU ffr (n + degSum nb n + 2) s :=
  dftIterative_fuel hb hs hf

/-! ### exactness, no repetition, start first (unfiltered listing; start is a member) -/

theorem C06_bft_exact (n : Nat) (hb : Bounded nb n) (s : Nat) (hs : s < n) (f : Nat)
    (hf : n + 1 ≤ f) :
    let out := bft nb inU (fun _ => true) f s
    out.Nodup ∧ out.head? = some s ∧ ∀ x, x ∈ out ↔ Reach nb inU s x :=
  bft_lists hb hs hf

theorem C06_dftRecursive_exact (n : Nat) (hb : Bounded nb n) (s : Nat) (hs : s < n) (f : Nat)
    (hf : n + 1 ≤ f) :
    let out := dftRecursive nb inU (fun _ => true) f s
    out.Nodup ∧ out.head? = some s ∧ ∀ x, x ∈ out ↔ Reach nb inU s x :=
  dftRecursive_lists hb hs hf

theorem C06_dftIterative_exact (n : Nat) (hb : Bounded nb n) (s : Nat) (hs : s < n)
    (hsU : inU s = true) (f : Nat) (hf : n + degSum nb n + 2 ≤ f) :
    let out := dftIterative nb inU (fun _ => true) f s
    out.Nodup ∧ out.head? = some s ∧ ∀ x, x ∈ out ↔ Reach nb inU s x :=
  dftIterative_lists hb hs hsU hf

theorem C06_agree_as_sets (n : Nat) (hb : Bounded nb n) (s : Nat) (hs : s < n) (hsU : inU s = true)
    (x : Nat) :
    (x ∈ bft nb inU (fun _ => true) (n + 1) s ↔ x ∈ dftRecursive nb inU (fun _ => true) (n + 1) s) ∧
    (x ∈ bft nb inU (fun _ => true) (n + 1) s ↔
      x ∈ dftIterative nb inU (fun _ => true) (n + degSum nb n + 2) s) := by
  have h1 := (C06_bft_exact nb inU n hb s hs (n + 1) (Nat.le_refl _)).2.2 x
  have h2 := (C06_dftRecursive_exact nb inU n hb s hs (n + 1) (Nat.le_refl _)).2.2 x
  have h3 := (C06_dftIterative_exact nb inU n hb s hs hsU (n + degSum nb n + 2) (Nat.le_refl _)).2.2 x
  exact ⟨h1.trans h2.symm, h1.trans h3.symm⟩

/-- non-vacuity: a 4-cycle with a chord, a self-loop, a parallel edge and an outsider -/
example :
    let nb : Nat → List Nat := fun v => match v with
      | 0 => [1, 1, 2] | 1 => [2, 0] | 2 => [2, 3, 4] | 3 => [0] | 4 => [5] | _ => []
    let inU : Nat → Bool := fun v => v != 4
    bft nb inU (fun _ => true) 7 0 = [0, 1, 2, 3] ∧
    dftRecursive nb inU (fun _ => true) 7 0 = [0, 1, 2, 3] ∧
    dftIterative nb inU (fun _ => true) 20 0 = [0, 2, 3, 1] := by decide

end T
end EG
