import EG.Proofs.TravOpsLemmas
/-
  C06 / C08 at the level of the WORLD: the traversal and search entry points (pre-flight
  checks, resolution of `neighbors()`, loop, cut at the first exception) on a graph where
  `neighbors()` of every vertex returns and no neighbour is None.  This composes C04 (what
  `neighbors()` returns) with the pure-loop theorems of C06 / C08.  The words of the statements
  (`TotalAt`, `nbOf`, `memberOf`, `ReachW`; `memberB` for C07World) are defined in
  EG/Proofs/TravOpsLemmas.lean and TravWorldLemmas.lean, where the helpers need them.
-/
namespace EG
namespace TO

variable (w : World) (F : Nat → LId → Option VId → Bool)

/-- every traversal entry point returns (no exception), lists no vertex twice, starts with the
    start vertex and lists exactly the vertices reachable through the universe -/
theorem C06_world_exact (kind : TravKind) (uni : Option VId) (start : VId) (dir unk : Nat)
    (via : Option Nat) (ht : TotalAt w F dir unk via) (hs : start < w.nV)
    (hu : memberOf w uni start) :
    ∃ out, traverse w F (fun _ => true) kind uni start dir unk via = (out, none) ∧
      out.Nodup ∧ out.head? = some start ∧ (∀ x ∈ out, x < w.nV) ∧
      ∀ x, x ∈ out ↔ ReachW w F uni dir unk via start x := by
  have hp := pureOut_exact w F kind uni start dir unk via ht hs hu
  refine ⟨pureOut w F (fun _ => true) kind uni start dir unk via,
    traverse_true_eq_pure w F kind uni start dir unk via ht hs hu, hp.1, hp.2.1,
    pureOut_lt w F kind uni start dir unk via ht hs hu, fun x => ?_⟩
  exact (hp.2.2 x).trans (reach_iff_reachW w F uni start dir unk via ht hs x)

theorem C06_world_agree (uni : Option VId) (start : VId) (dir unk : Nat) (via : Option Nat)
    (ht : TotalAt w F dir unk via) (hs : start < w.nV) (hu : memberOf w uni start) (x : Nat) :
    (x ∈ (traverse w F (fun _ => true) .bft uni start dir unk via).1 ↔
      x ∈ (traverse w F (fun _ => true) .dftr uni start dir unk via).1) ∧
    (x ∈ (traverse w F (fun _ => true) .bft uni start dir unk via).1 ↔
      x ∈ (traverse w F (fun _ => true) .dfti uni start dir unk via).1) := by
  obtain ⟨o1, e1, _, _, _, m1⟩ := C06_world_exact w F .bft uni start dir unk via ht hs hu
  obtain ⟨o2, e2, _, _, _, m2⟩ := C06_world_exact w F .dftr uni start dir unk via ht hs hu
  obtain ⟨o3, e3, _, _, _, m3⟩ := C06_world_exact w F .dfti uni start dir unk via ht hs hu
  rw [e1, e2, e3]
  exact ⟨(m1 x).trans (m2 x).symm, (m1 x).trans (m3 x).symm⟩

/-- ff_result only removes entries from the listing -/
theorem C06_world_ff_result (kind : TravKind) (uni : Option VId) (start : VId) (dir unk : Nat)
    (via : Option Nat) (ffr : Nat → Bool) (ht : TotalAt w F dir unk via) (hs : start < w.nV)
    (hu : memberOf w uni start) :
    traverse w F ffr kind uni start dir unk via =
      ((traverse w F (fun _ => true) kind uni start dir unk via).1.filter ffr, none) := by
  rw [traverse_eq_pure w F ffr kind uni start dir unk via ht hs hu,
    traverse_true_eq_pure w F kind uni start dir unk via ht hs hu]

/-- the search entry points return the first listed vertex (of the corresponding traversal
    with default settings) that has the attribute with the sought value, or None -/
theorem C08_world_first_match (uni : Option VId) (start : VId) (attr val : Nat)
    (ht : TotalAt w F 0 2 none) (hs : start < w.nV) (hu : memberOf w uni start) :
    search w F .bfs uni start attr val =
      .inr ((traverse w F (fun _ => true) .bft uni start 0 2 none).1.find? (hasAttrVal w attr val)) ∧
    search w F .dfsr uni start attr val =
      .inr ((traverse w F (fun _ => true) .dftr uni start 0 2 none).1.find? (hasAttrVal w attr val)) ∧
    search w F .dfsi uni start attr val =
      .inr ((traverse w F (fun _ => true) .dfti uni start 0 2 none).1.find? (hasAttrVal w attr val)) :=
  ⟨search_eq_find w F .bfs uni start attr val ht hs hu, search_eq_find w F .dfsr uni start attr val ht hs hu,
    search_eq_find w F .dfsi uni start attr val ht hs hu⟩

/-- the pre-flight checks: a start vertex outside the given non-empty universe raises ValueError
    (the empty universe is tested first and answered differently per kind: `TO.traverse_eq`) -/
theorem C06_world_preflight (kind : TravKind) (u : VId) (start : VId) (dir unk : Nat)
    (via : Option Nat) (ffr : Nat → Bool) (hne : w.members u ≠ []) (hns : start ∉ w.members u) :
    traverse w F ffr kind (some u) start dir unk via = ([], some .value) := by
  simp [traverse_eq, emptyUni, startOut, hne, hns]

/-- a sought value that compares equal to everything (value class 6) matches exactly the vertices
    that HAVE the attribute: a vertex lacking it is never returned, whatever the value's `__eq__` says -/
theorem C08_any_value_needs_attribute (attr : Nat) (x : VId) :
    hasAttrVal w attr 6 x = (w.attrs x).any (fun p => p.1 == attr) ∧
    ((w.attrs x).all (fun p => p.1 != attr) → ∀ val, hasAttrVal w attr val x = false) := by
  constructor
  · simp [hasAttrVal]
  · intro h val
    simp only [hasAttrVal, List.any_eq_false]
    intro p hp
    have := List.all_eq_true.1 h p hp
    simp at this
    simp [this]

/-- "a value equal (==) to the one sought": a value that is not equal to itself (value class 8: `math.nan`, the SAME
    object stored on the vertex and sought) matches no vertex — the test is `==`, never identity -/
theorem C08_nan_never_matches (attr : Nat) (x : VId) : hasAttrVal w attr 8 x = false := by
  simp [hasAttrVal]

end TO
end EG
