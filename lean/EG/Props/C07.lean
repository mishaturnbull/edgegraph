import EG.Proofs.TravOrder
/-
  C07 — traversal order is the canonical BFS / DFS order induced by link order.
  `nb v` is the ordered `neighbors()` list of `v` (itself in `v.links` order, C04), so these
  are statements about the order induced by link order.  Property theorems only.
-/
namespace EG
namespace T

variable (nb : Nat → List Nat) (inU : Nat → Bool)

-- holds for every fuel and without boundedness: `hb`, `hs`, `hf` are not needed by the proof
set_option linter.unusedVariables false in
/-- BFS: there is a hop-distance function `d` such that every listed vertex is reachable in
    exactly `d x` hops and not in fewer (it appears at its shortest distance), and the
    distance never decreases along the output -/
theorem C07_bft_monotone_distance (n : Nat) (hb : Bounded nb n) (s : Nat) (hs : s < n) (f : Nat)
    (hf : n + 1 ≤ f) :
    ∃ d : Nat → Nat,
      (∀ x ∈ bft nb inU (fun _ => true) f s,
        ReachIn nb inU s (d x) x ∧ ∀ k, k < d x → ¬ ReachIn nb inU s k x) ∧
      (bft nb inU (fun _ => true) f s).Pairwise (fun a b => d a ≤ d b) :=
  bft_monotone_distance s f

-- holds for every fuel and without boundedness: `hb`, `hs`, `hf` are not needed by the proof
set_option linter.unusedVariables false in
theorem C07_bft_listing_order (n : Nat) (hb : Bounded nb n) (s : Nat) (hs : s < n) (f : Nat)
    (hf : n + 1 ≤ f) :
    bft nb inU (fun _ => true) f s = bftSpec nb inU f [s] 0 := by
  rw [← bftLoop_eq_spec]
  simp [bft]

/-- recursive DFS is pre-order: called on an unlisted vertex `v` with `vis` already listed, it
    lists `v` first and then exactly the vertices reachable from `v` along paths avoiding
    everything listed before (its whole subtree), before returning -/
theorem C07_dftRec_segment (n : Nat) (hb : Bounded nb n) (vis out : List Nat) (v f : Nat)
    (hv : v < n) (hnv : v ∉ vis) (hvis : vis.Nodup) (hlt : ∀ y ∈ vis, y < n) (hf : n + 1 ≤ f) :
    ∃ seg : List Nat,
      dftRec nb inU (fun _ => true) f (vis, out) v = (vis ++ seg, out ++ seg) ∧
      seg.head? = some v ∧ seg.Nodup ∧
      ∀ y, y ∈ seg ↔ ReachAvoiding nb inU vis v y :=
  dftRec_segment hb vis out v f hv hnv hvis hlt hf

/-- pre-order unfolding: after a vertex come, for each of its neighbours in order, nothing if
    that neighbour is outside the universe or already listed, and otherwise that neighbour's
    own complete listing -/
theorem C07_dftRec_unfold (vis out : List Nat) (v f : Nat) :
    dftRec nb inU (fun _ => true) (f + 1) (vis, out) v =
      (nb v).foldl
        (fun s w => if inU w = true ∧ w ∉ s.1 then dftRec nb inU (fun _ => true) f s w else s)
        (vis ++ [v], out ++ [v]) := by
  rw [dftRec_unfold]; rfl

/-- the explicit-stack DFS expands the most recently pushed neighbour first: it lists the
    vertices exactly as the recursive DFS does on the graph with every neighbour list reversed -/
theorem C07_dftIter_eq_dftRec_reversed (n : Nat) (hb : Bounded nb n) (s : Nat) (hs : s < n)
    (hsU : inU s = true) (ffr : Nat → Bool) :
    dftIterative nb inU ffr (n + degSum nb n + 2) s =
      dftRecursive (fun v => (nb v).reverse) inU ffr (n + 1) s :=
  dftIter_eq_dftRec_reversed ffr hb s hs hsU

/-- each order is a function of the link order of the reachable part alone: two graphs whose
    neighbour lists and universe tests agree on everything reachable from the start give the
    same three sequences (in particular: repeating a call, or rebuilding the same graph in the
    same order, gives the same sequence) -/
theorem C07_function_of_link_order (nb' : Nat → List Nat) (inU' : Nat → Bool) (s : Nat) (f : Nat)
    (ffr : Nat → Bool)
    (hnb : ∀ x, Reach nb inU s x → nb x = nb' x) (hU : ∀ x, inU x = inU' x) :
    bft nb inU ffr f s = bft nb' inU' ffr f s ∧
    dftRecursive nb inU ffr f s = dftRecursive nb' inU' ffr f s ∧
    (inU s = true → dftIterative nb inU ffr f s = dftIterative nb' inU' ffr f s) := by
  have : inU = inU' := funext hU
  subst this
  refine ⟨bftLoop_congr ffr nb' hnb f _ _ _ (fun x hx => ?_),
    congrArg Prod.snd (dftRec_congr ffr nb' hnb f _ s .refl),
    fun _ => dftIterLoop_congr ffr nb' hnb f _ _ _ (fun x hx _ => ?_)⟩
  · simp at hx; subst hx; exact .refl
  · simp at hx; subst hx; exact .refl

/-- non-vacuity: orders differ between the three traversals and depend on link order -/
example :
    let nb : Nat → List Nat := fun v => match v with
      | 0 => [1, 2] | 1 => [3] | 2 => [3, 4] | 3 => [5] | _ => []
    let nb' : Nat → List Nat := fun v => match v with
      | 0 => [2, 1] | 1 => [3] | 2 => [3, 4] | 3 => [5] | _ => []
    bft nb (fun _ => true) (fun _ => true) 9 0 = [0, 1, 2, 3, 4, 5] ∧
    dftRecursive nb (fun _ => true) (fun _ => true) 9 0 = [0, 1, 3, 5, 2, 4] ∧
    dftIterative nb (fun _ => true) (fun _ => true) 20 0 = [0, 2, 4, 3, 5, 1] ∧
    bft nb' (fun _ => true) (fun _ => true) 9 0 = [0, 2, 1, 3, 4, 5] ∧
    bftSpec nb (fun _ => true) 9 [0] 0 = [0, 1, 2, 3, 4, 5] := by decide

end T
end EG
