import EG.Props.C07
/-
  C07, "rebuilding the same graph gives the same listing" — the renaming form.
  A graph rebuilt with fresh objects is the same graph under an injective renaming `ρ` of its
  vertices: the neighbour lists correspond (`nb' (ρ x) = (nb x).map ρ`), and so do universe
  membership and the result filter.  The three traversals are EQUIVARIANT: what they list from
  `ρ start` on the renamed graph is the `ρ`-image, position by position, of what they list from
  `start` on the original — for every graph, every fuel, every injective `ρ`.  So the listing
  depends on the link order alone, not on the identity of the objects (their addresses, uids,
  hash values, creation order).
-/
namespace EG
namespace T

variable {nb nb' : Nat → List Nat} {inU inU' ffr ffr' : Nat → Bool} {ρ : Nat → Nat}

/-- breadth-first listing of the rebuilt graph = image of the listing of the original -/
theorem C07_bft_rename_equivariant (hρ : Function.Injective ρ) (hnb : ∀ x, nb' (ρ x) = (nb x).map ρ)
    (hU : ∀ x, inU' (ρ x) = inU x) (hF : ∀ x, ffr' (ρ x) = ffr x) (fuel start : Nat) :
    bft nb' inU' ffr' fuel (ρ start) = (bft nb inU ffr fuel start).map ρ := by
  have := bftLoop_map (Maps.of_inj hρ hnb hU) hF fuel [start] [start]
    (if ffr start = true then [start] else []) fun _ _ => trivial
  simp only [bft, hF]
  by_cases h : ffr start = true
  · simp only [h, if_true, List.map_cons, List.map_nil] at this ⊢; exact this
  · simp only [h, if_false, Bool.false_eq_true, List.map_cons, List.map_nil] at this ⊢; exact this

theorem C07_dftRecursive_rename_equivariant (hρ : Function.Injective ρ)
    (hnb : ∀ x, nb' (ρ x) = (nb x).map ρ) (hU : ∀ x, inU' (ρ x) = inU x) (hF : ∀ x, ffr' (ρ x) = ffr x)
    (fuel start : Nat) :
    dftRecursive nb' inU' ffr' fuel (ρ start) = (dftRecursive nb inU ffr fuel start).map ρ := by
  have := dseg_map (Maps.of_inj hρ hnb hU) fuel [] start trivial
  simp only [dftRecursive, dftRec_eq, List.nil_append, ← filter_map_of hF, ← this, List.map_nil]

theorem C07_dftIterative_rename_equivariant (hρ : Function.Injective ρ)
    (hnb : ∀ x, nb' (ρ x) = (nb x).map ρ) (hU : ∀ x, inU' (ρ x) = inU x) (hF : ∀ x, ffr' (ρ x) = ffr x)
    (fuel start : Nat) :
    dftIterative nb' inU' ffr' fuel (ρ start) = (dftIterative nb inU ffr fuel start).map ρ := by
  have := dftIterLoop_map (Maps.of_inj hρ hnb hU) hF fuel [start] [] []
    fun x _ => ⟨hU x, fun _ => trivial⟩
  simpa [dftIterative] using this

/-- non-vacuity: the path 0 → 1 → 2 rebuilt as 12 → 11 → 10 (ρ x = 12 - x on the vertices) -/
example :
    let nb : Nat → List Nat := fun x => if x = 0 then [1] else if x = 1 then [2] else []
    let nb' : Nat → List Nat := fun x => if x = 12 then [11] else if x = 11 then [10] else []
    bft nb' (fun _ => true) (fun _ => true) 10 12 = (bft nb (fun _ => true) (fun _ => true) 10 0).map (12 - ·) := by
  decide +kernel

end T
end EG
