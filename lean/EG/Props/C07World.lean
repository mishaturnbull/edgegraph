import EG.Proofs.TravWorldLemmas
/-
  C07 at the level of the WORLD: on a graph where `neighbors()` of every vertex returns and no
  neighbour is None, the three traversal ENTRY POINTS list the vertices in the canonical orders
  of C07, computed from `nbOf` — the answer list of the real `neighbors()` (itself in `v.links`
  order, C04) — and the membership test of the call.  Hence the order is a function of the
  link order alone: worlds that agree on links, ends, link classes and members (whatever their
  attributes, memos, law sets …) give the same listings.
-/
namespace EG
namespace TO

variable (w : World) (F : Nat → LId → Option VId → Bool)

/-- BFS entry point = the level-by-level listing spec of C07 over `nbOf` / `memberB` -/
theorem C07_world_bft_order (uni : Option VId) (start : VId) (dir unk : Nat) (via : Option Nat)
    (ht : TotalAt w F dir unk via) (hs : start < w.nV) (hu : memberOf w uni start) :
    traverse w F (fun _ => true) .bft uni start dir unk via =
      (T.bftSpec (nbOf w F dir unk via) (memberB w uni) (w.nV + 1) [start] 0, none) := by
  rw [traverse_true_eq_pure w F .bft uni start dir unk via ht hs hu,
    pure_bft_order w F uni start dir unk via ht hs]

/-- recursive DFS entry point = pre-order DFS over `nbOf` / `memberB` -/
theorem C07_world_dftRecursive_order (uni : Option VId) (start : VId) (dir unk : Nat)
    (via : Option Nat) (ht : TotalAt w F dir unk via) (hs : start < w.nV)
    (hu : memberOf w uni start) :
    traverse w F (fun _ => true) .dftr uni start dir unk via =
      (T.dftRecursive (nbOf w F dir unk via) (memberB w uni) (fun _ => true) (w.nV + 1) start, none) := by
  rw [traverse_true_eq_pure w F .dftr uni start dir unk via ht hs hu,
    pure_dftr_order w F uni start dir unk via ht hs]

/-- iterative DFS entry point = pre-order DFS over the REVERSED `neighbors()` lists -/
theorem C07_world_dftIterative_order (uni : Option VId) (start : VId) (dir unk : Nat)
    (via : Option Nat) (ht : TotalAt w F dir unk via) (hs : start < w.nV)
    (hu : memberOf w uni start) :
    traverse w F (fun _ => true) .dfti uni start dir unk via =
      (T.dftRecursive (fun v => (nbOf w F dir unk via v).reverse) (memberB w uni) (fun _ => true)
        (w.nV + 1) start, none) := by
  rw [traverse_true_eq_pure w F .dfti uni start dir unk via ht hs hu,
    pure_dfti_order w F uni start dir unk via ht hs hu]

/-- the listings are a function of the link order alone: two worlds with the same vertices,
    the same link lists per vertex, the same ends and classes of links and the same members
    give the same answer for every traversal call (with or without exceptions) — attributes,
    universes of vertices, law sets, memo contents, the caching flag do not matter.  In
    particular rebuilding the same graph in the same order reproduces every sequence. -/
theorem C07_world_function_of_link_order (w' : World) (ffr : Nat → Bool) (kind : TravKind)
    (uni : Option VId) (start : VId) (dir unk : Nat) (via : Option Nat)
    (hn : w.nV = w'.nV) (hl : w.links = w'.links) (he : w.ends = w'.ends) (hc : w.lcls = w'.lcls)
    (hm : w.members = w'.members) :
    traverse w F ffr kind uni start dir unk via = traverse w' F ffr kind uni start dir unk via :=
  traverse_congr w' F w ffr kind uni start dir unk via hn hl he hc hm

/-- when `neighbors()` raises for some reached vertex the traversal raises too, having yielded
    a duplicate-free prefix that begins with the start vertex (when anything was yielded) and
    contains only vertices reachable through the universe.

    Note the second clause: with `uni = None` a `None` neighbour (a link one of whose ends is
    None) passes the universe test, is yielded (as id `w.nV`), and only then does
    `neighbors(None)` raise — see `C06_world_none_is_yielded` below. -/
theorem C06_world_error_prefix (kind : TravKind) (uni : Option VId) (start : VId)
    (dir unk : Nat) (via : Option Nat) (hs : start < w.nV) (hu : memberOf w uni start)
    (out : List Nat) (e : Err)
    (h : traverse w F (fun _ => true) kind uni start dir unk via = (out, some e)) :
    out.Nodup ∧ (∀ x ∈ out, x < w.nV ∨ (x = w.nV ∧ uni = none)) ∧
    (out ≠ [] → out.head? = some start) ∧
    ∀ x ∈ out, T.Reach (resolvedNb w F dir unk via) (inUni w uni) start x :=
  error_prefix w F kind uni start dir unk via hs hu out e h

/-- one vertex `0` with one undirected link `0` whose ends are `(0, None)`: `bft(None, 0)`
    yields `0`, then `None` (id `1 = w.nV`), then raises AttributeError -/
def cexWorld : World :=
  { World.init with
    nV := 1, nL := 1
    links := fun v => if v = 0 then [0] else []
    ends := fun _ => [some 0, none]
    lcls := fun _ => .U }

theorem C06_world_none_is_yielded :
    cexWorld.nV = 1 ∧ (0 : Nat) < cexWorld.nV ∧ memberOf cexWorld none 0 ∧
    traverse cexWorld (fun _ _ _ => true) (fun _ => true) .bft none 0 0 2 none =
      ([0, 1], some .attribute) :=
  ⟨by decide, by decide, trivial, by decide⟩

end TO
end EG
