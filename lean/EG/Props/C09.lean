import EG.Proofs.QueryLemmas
import EG.Props.C09Table
/-
  C09 (part 2: general theorems on the mirror model) — `find_links` returns exactly the links
  `neighbors()` would follow from a to b.
-/
namespace EG
open Tab

/-- the per-link rule, for every world -/
theorem C09_link_rule (w : World) (F : Nat → LId → Option VId → Bool) (a b : VId) (ds : Bool)
    (unk : Nat) (filt : Option Nat) (l : LId) (x y : Option VId)
    (he : w.ends l = [x, y]) (hk : (w.lcls l).kind ≠ .nary) :
    flOut w F a b ds unk filt l =
      specFl (w.lcls l).kind (relOf x y a b) ds unk (filtOf F filt l none) :=
  flOut_rule w F a b ds unk filt l x y he hk

/-- exactness: when the call returns, a link is in the result iff it is attached to `a` and
    its own outcome is `found`; the result has no duplicates (it is a set) -/
theorem C09_exact (w : World) (F : Nat → LId → Option VId → Bool) (a b : VId) (ds : Bool)
    (unk : Nat) (filt : Option Nat) (J : List LId)
    (h : M.findLinks w F a b ds unk filt = .ok J) :
    J.Nodup ∧ ∀ l, l ∈ J ↔ l ∈ w.links a ∧ flOut w F a b ds unk filt l = .found := by
  rw [M.findLinks_eq] at h
  rw [M.flFold_ok _ _ [] J h]
  exact ⟨nodup_dedupKeepFirst _, fun l => by simp [mem_dedupKeepFirst, flOut_eq]⟩

/-- the call raises iff some attached link's own outcome is a raise (the first such) -/
theorem C09_raises (w : World) (F : Nat → LId → Option VId → Bool) (a b : VId) (ds : Bool)
    (unk : Nat) (filt : Option Nat) :
    (∃ e, M.findLinks w F a b ds unk filt = .error e) ↔
      ∃ l ∈ w.links a, ∃ e, flOut w F a b ds unk filt l = .raise e := by
  simp only [flOut_eq, M.findLinks_eq]
  exact M.flFold_raises ..

set_option linter.unusedVariables false in
/-- size = multiplicity in `neighbors`: with direction sensitivity against FORWARD, without it
    against ANY — whenever both calls return, for a filter that looks at the link only.  The
    statement carries `ha` without need, and of `hs` only that `a` lists no link twice is used
    (`findLinks_length`). -/
theorem C09_count (w : World) (F : Nat → LId → Option VId → Bool) (a b : VId) (unk : Nat)
    (filt : Option Nat) (hs : Sym w) (ha : TwoEndedAt w a)
    (hF : ∀ k l x, F k l x = F k l none)
    (J : List LId) (r : List (Option VId)) (ds : Bool)
    (h1 : M.findLinks w F a b ds unk filt = .ok J)
    (h2 : M.neighborsPure w F a (if ds then 0 else 1) unk filt = .ok r) :
    J.length = r.count (some b) :=
  findLinks_length w F a b unk filt (hs.nodup a) hF J r ds h1 h2

/-- non-vacuity: direction-sensitive `find_links(0, 1)` finds the edge 0→1 and the undirected one, without
    direction also the edge 1→0; a self-loop is found from its vertex to itself -/
example :
    let w := (M.run (fun _ _ _ => true)
      [.newVertex .V [] [] [], .newVertex .V [] [] [], .newEdge .D (some 0) (some 1),
       .newEdge .U (some 0) (some 1), .newEdge .D (some 1) (some 0), .newEdge .D (some 0) (some 0)]).1
    M.findLinks w (fun _ _ _ => true) 0 1 true 2 none = .ok [0, 1] ∧
    M.findLinks w (fun _ _ _ => true) 0 1 false 2 none = .ok [0, 1, 2] ∧
    M.findLinks w (fun _ _ _ => true) 0 0 true 2 none = .ok [3] := by
  intro w; exact ⟨by rfl, by rfl, by rfl⟩

end EG
