import EG.Proofs.UnlinkLemmas
/-
  C03 / C09 — `explicit.unlink(a, b)`: removes exactly the links joining a and b (every type,
  both directions), returns exactly those, afterwards `find_links(a, b)` is empty for every
  setting, and links between other pairs are still found.
  Stated for vertices all of whose links are proper two-ended links (exactly two ends).
-/
namespace EG

/-- every link attached to any vertex is a two-ended link with exactly two ends -/
def AllTwoEnded (w : World) : Prop := ∀ x, TwoEndedAt w x

/-- what unlink returns / removes: exactly the links of `a` that join `a` and `b` -/
theorem C03_unlink_exact (F : Nat → LId → Option VId → Bool) (w : World) (a b : VId)
    (h : Inv w) (ht : AllTwoEnded w) (ha : w.vOK a = true) (hb : w.vOK b = true) :
    ∃ w' J, M.step F w (.unlink a b false) = (w', .links J) ∧
      M.step F w (.unlink a b true) = (w', .nothing) ∧
      J.Nodup ∧ (∀ l, l ∈ J ↔ l ∈ w.links a ∧ Joins w l a b) ∧
      -- the joining links are detached from both ends and lose both ends …
      (∀ l ∈ J, w'.ends l = []) ∧
      (∀ v, w'.links v = (w.links v).filter (fun l => !(J.contains l))) ∧
      -- … and every other link is untouched
      (∀ l, l ∉ J → w'.ends l = w.ends l) ∧
      w'.members = w.members ∧ w'.unis = w.unis ∧ w'.laws = w.laws ∧ Inv w' := by
  obtain ⟨w', J, u⟩ := unlink_core F w a b h (ht a) ha hb
  exact ⟨w', J, u.step false, u.step true, u.nodup, u.mem, u.ends_removed, u.links, u.ends_kept,
    u.frame.members, u.frame.unis, u.frame.laws, u.inv⟩

/-- after unlink(a, b) `find_links(a, b)` (and `(b, a)`) is empty for every direction flag,
    unknown-handling value and filter -/
theorem C09_after_unlink_empty (F : Nat → LId → Option VId → Bool) (w : World) (a b : VId)
    (h : Inv w) (ht : AllTwoEnded w) (ha : w.vOK a = true) (hb : w.vOK b = true)
    (ds : Bool) (unk : Nat) (filt : Option Nat) :
    let w' := (M.step F w (.unlink a b true)).1
    M.findLinks w' F a b ds unk filt = .ok [] ∧ M.findLinks w' F b a ds unk filt = .ok [] := by
  obtain ⟨w', J, u⟩ := unlink_core F w a b h (ht a) ha hb
  simp only [u.step true]
  -- nothing is found from `c` to `d` once every link of `c` that joins them is in `J`: a link that
  -- survives in `links' c` is an unchanged link of `c` outside `J`
  have empty : ∀ c d, (∀ l ∈ w.links c, Joins w l c d → l ∈ J) →
      M.findLinks w' F c d ds unk filt = .ok [] := by
    intro c d hJ
    rw [M.findLinks_eq]
    apply M.flFold_all_absent
    intro l hlv
    rw [u.links c, List.mem_filter] at hlv
    have hnJ : l ∉ J := by simpa using hlv.2
    rw [M.flOne_congr w w' F c d ds unk filt l (by rw [u.frame.lcls]) (u.ends_kept l hnJ)]
    exact M.flOne_absent w F c d ds unk filt l (ht c l hlv.1).1 (ht c l hlv.1).2
      (fun hj => hnJ (hJ l hlv.1 hj))
  refine ⟨empty a b fun l hla hj => (u.mem l).mpr ⟨hla, hj⟩, empty b a fun l _ hj => ?_⟩
  -- a link that joins `b` and `a` lists `a`, so `a` lists it
  have hla : l ∈ w.links a := by
    rw [h.sym.iff a l]
    rcases hj with e | e <;> rw [e] <;> simp
  exact (u.mem l).mpr ⟨hla, hj.symm⟩

/-- … while links between other pairs are still found exactly as before -/
theorem C09_after_unlink_others (F : Nat → LId → Option VId → Bool) (w : World) (a b c d : VId)
    (h : Inv w) (ht : AllTwoEnded w) (ha : w.vOK a = true) (hb : w.vOK b = true)
    (hne : ¬ ((c = a ∧ d = b) ∨ (c = b ∧ d = a)))
    (ds : Bool) (unk : Nat) (filt : Option Nat) :
    let w' := (M.step F w (.unlink a b true)).1
    M.findLinks w' F c d ds unk filt = M.findLinks w F c d ds unk filt := by
  obtain ⟨w', J, u⟩ := unlink_core F w a b h (ht a) ha hb
  simp only [u.step true, M.findLinks_eq]
  rw [u.links c]
  apply M.flFold_filter
  intro l hlc
  split
  · -- the surviving links are read identically in both worlds …
    rename_i hp
    have hnJ : l ∉ J := by simpa using hp
    exact M.flOne_congr w w' F c d ds unk filt l (by rw [u.frame.lcls]) (u.ends_kept l hnJ)
  · -- … and the removed ones were skipped by the loop anyway
    rename_i hp
    have hlJ : l ∈ J := by simpa using hp
    exact M.flOne_absent w F c d ds unk filt l (ht c l hlc).1 (ht c l hlc).2
      (fun hcd => hne (M.joins_unique ((u.mem l).mp hlJ).2 hcd))

/-- non-vacuity: `unlink(0, 1)` removes the three links joining 0 and 1 whatever their class and direction and
    leaves the links to 2 and the self-loop; `unlink(0, 0)` removes the self-loop -/
example :
    let F : Nat → LId → Option VId → Bool := fun _ _ _ => true
    let w := (M.run F [.newVertex .V [] [] [], .newVertex .V [] [] [], .newVertex .V [] [] [],
      .newEdge .D (some 0) (some 1), .newEdge .U (some 1) (some 0), .newEdge .X (some 0) (some 1),
      .newEdge .D (some 0) (some 2), .newEdge .D (some 0) (some 0)]).1
    (M.step F w (.unlink 0 1 false)).2 = .links [0, 1, 2] ∧
    (M.step F w (.unlink 0 1 false)).1.links 0 = [3, 4] ∧
    (M.step F w (.unlink 0 0 false)).2 = .links [4] := by
  intro F w; exact ⟨by decide +kernel, by decide +kernel, by decide +kernel⟩

end EG
