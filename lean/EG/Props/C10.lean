import EG.Proofs.PickleLemmas
/-
  C10 — nrpickler round-trips any graph (the part a theorem can carry: the SCHEDULING).
  The non-recursive pickler defers every `save`, `write` and `memoize` into a queue; the
  theorem says that, for every object graph of every depth, processing that queue emits the
  stream of the standard recursive pickler (up to replacing "build, then pop, then GET" by
  "discard the parts, then GET": the same effect on the unpickler's stack) with the same memo,
  and does so in a flat loop.  Loading these streams is proved for an abstract unpickler in
  EG.Props.C10Load and EG.Props.C10Sim; byte-level faithfulness and pickle's / dill's own loader
  are tested by the correspondence (stream equality with dill.dumps, load-and-compare, fresh
  interpreter), not proved.  Besides the theorems: `steps`, and `chain` for the depth example.
-/
namespace EG
namespace Pk

/-- exactly `n` iterations of the loop -/
def steps (H : Heap) : Nat → Conf → Option Conf
  | 0, c => some c
  | n+1, c => match nrStep H c with
    | none => none
    | some c' => steps H n c'

theorem steps_eq_stepsL (H : Heap) (n : Nat) (c : Conf) : steps H n c = stepsL H n c := by
  induction n generalizing c with
  | zero => rfl
  | succ n ih =>
    simp only [steps, stepsL]
    cases nrStep H c with
    | none => rfl
    | some c' => exact ih c'

/-- refinement: if the recursive pickler (with whatever recursion depth it needs) saves `o`
    from memo state `memo` emitting `s` and ending with memo `m'`, then the queue machine started
    with `save o` in front of ANY pending queue `q` reaches, after finitely many iterations, the
    configuration where exactly that item has been consumed, the memo is `m'`, and the emitted
    opcodes normalise to `s` -/
theorem C10_nr_refines_rec (H : Heap) (f o : Nat) (memo : List Nat) (s : List POp) (m' : List Nat)
    (h : rec H f o memo = some (s, m')) :
    ∀ (q : List Item) (out : List POp), ∃ n s',
      steps H n ⟨.save o :: q, memo, out⟩ = some ⟨q, m', out ++ s'⟩ ∧ normalize s' = normalize s := by
  intro q out
  obtain ⟨n, s', hs, hn, _, _⟩ := rec_sim H f o memo s m' h q out
  exact ⟨n, s', by rw [steps_eq_stepsL]; exact hs, hn⟩

/-- whole-dump corollary: with enough loop iterations `nrDump` returns the recursive pickler's
    stream (normalised) and memo -/
theorem C10_dump_eq (H : Heap) (f root : Nat) (s : List POp) (m' : List Nat)
    (h : rec H f root [] = some (s, m')) :
    ∃ fuel s', nrDump H fuel root = some (s', m') ∧ normalize s' = normalize s := by
  obtain ⟨n, s', hs, hn⟩ := C10_nr_refines_rec H f root [] s m' h [] []
  rw [steps_eq_stepsL] at hs
  have hr := nrRun_of_stepsL 0 hs rfl
  refine ⟨n, s', ?_, hn⟩
  simp only [Nat.add_zero] at hr
  simp [nrDump, hr]

/-- no recursion: one loop iteration handles exactly one queue item and at most expands ONE
    object by one level — the pending work lives in the queue, not on the call stack -/
theorem C10_step_flat (H : Heap) (c c' : Conf) (h : nrStep H c = some c') :
    ∃ item rest, c.queue = item :: rest ∧
      (c'.queue = rest ∨
       ∃ o tup k bs as, item = .save o ∧ H o = .node tup k bs as ∧
         c'.queue.length ≤ rest.length + bs.length + as.length + 4) := by
  unfold nrStep at h
  split at h
  · cases h
  · rename_i op q hq
    cases h
    exact ⟨_, _, hq, .inl rfl⟩
  · rename_i o q hq
    split at h
    · cases h
      exact ⟨_, _, hq, .inl rfl⟩
    · cases h
      exact ⟨_, _, hq, .inl rfl⟩
  · rename_i o q hq
    split at h
    · cases h
      exact ⟨_, _, hq, .inl rfl⟩
    · split at h
      · cases h
        exact ⟨_, _, hq, .inl rfl⟩
      · rename_i tup k bs as hH
        cases h
        refine ⟨_, _, hq, .inr ⟨o, tup, k, bs, as, rfl, hH, ?_⟩⟩
        cases tup
        · simp; omega
        · simp; omega

/-- `n` nested objects: the state of object `o < n` holds object `o + 1`; from `n` on, atoms -/
def chain (n : Nat) : Heap := fun o => if o < n then .node false 0 [] [o + 1] else .atom 0

theorem rec_chain_isSome (n f : Nat) : (rec (chain n) f 0 []).isSome ↔ n < f := by
  simpa using rec_chain_iff (chain n) n (fun o ho => by simp [chain, ho])
    (fun o ho => by simp [chain, Nat.not_lt.mpr ho]) f 0 [] (Nat.zero_le _) (fun x hx => by cases hx)

/-- the recursive pickler needs recursion depth proportional to the depth of the graph: on a
    chain of `n` nested objects it fails with any fuel up to `n` … -/
theorem C10_rec_needs_depth (n f : Nat) (hf : f ≤ n) : rec (chain n) f 0 [] = none :=
  Option.not_isSome_iff_eq_none.mp fun h => Nat.not_lt.mpr hf ((rec_chain_isSome n f).mp h)

/-- … while the queue machine completes it, given enough flat iterations -/
theorem C10_nr_handles_depth (n : Nat) : ∃ fuel r, nrDump (chain n) fuel 0 = some r := by
  obtain ⟨⟨s, m⟩, hr⟩ :=
    Option.isSome_iff_exists.mp ((rec_chain_isSome n (n + 1)).mpr (Nat.lt_succ_self n))
  obtain ⟨fuel, s', hd, _⟩ := C10_dump_eq (chain n) (n + 1) 0 s m hr
  exact ⟨fuel, (s', m), hd⟩

/-- non-vacuity: the D10 shape — a tuple reachable from its own element and shared — where the
    deferred memoisation finds the object already memoised (Pop, Get) and sharing is preserved -/
example :
    let H : Heap := fun o => match o with
      | 0 => .node false 9 [] [1, 2]        -- the list [b, a]
      | 1 => .node false 1 [] [3]           -- b, state holds the tuple
      | 2 => .node false 1 [] [3]           -- a, state holds the tuple
      | 3 => .node true 7 [2] []            -- t = (a,)
      | _ => .atom 0
    (rec H 10 0 []).map (·.2) = some [0, 1, 2, 3] ∧
    (nrDump H 100 0).map (fun r => (normalize r.1, r.2)) = (rec H 10 0 []).map (fun r => (normalize r.1, r.2)) ∧
    ((nrDump H 100 0).map (fun r => r.1.contains .pop)) = some true := by
  decide +kernel

end Pk
end EG
