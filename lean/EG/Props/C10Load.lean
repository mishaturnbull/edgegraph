import EG.Proofs.PickleLoadLemmas
import EG.Props.C10
/-
  C10, the LOADING side — on the abstract heap, loading what the pickler wrote rebuilds the
  object graph: "new objects of the same classes with the same attributes, the same ordered
  links per vertex, ordered ends per link and ordered members per universe, with shared objects
  still shared".

  `vmLoad` is the stack machine of the unpickler on the abstract opcodes (EG.PickleLoad).  For
  every heap, depth and root, the stream of the recursive pickler — hence, by `C10_dump_eq`, the
  stream of the queue machine of `nrpickler` — loads to a heap isomorphic to the reachable part of
  the original: same kinds, same ORDERED `before` and `after` children, one new object per
  original object, atoms as themselves.

  Partial in one respect, stated as a hypothesis: `NoReentry` — no NON-tuple object is met again
  while the arguments of its own reduce are being saved (the stream contains no `POP`).  Cycles
  through instance state — how vertices, links and universes refer to each other — and a tuple
  reachable from its own elements (`t = (a,); a.t = t`, the shape of defect D10) are covered.
  `C10_nr_load_roundtrip` needs the machine's own stream to be free of `POP` as well (it writes
  `POP`, GET where the recursive pickler writes `POP_MARK`, GET for a re-entered tuple).  The byte
  level (opcode encodings, framing) and pickle's own loader remain trusted / tested.
-/
namespace EG
namespace Pk

/-- the round trip for the recursive pickler's stream -/
theorem C10_load_roundtrip (H : Heap) (tupK : Nat → Bool) (hwf : KindsWF H tupK) (f root : Nat)
    (s : List POp) (m' : List Nat) (h : rec H f root [] = some (s, m')) (hn : NoReentry s) :
    ∃ v S, vmLoad tupK s = some (v, S) ∧
      -- the value returned is the image of the root
      v = phi H m' S.memo root ∧
      -- every pickled object is rebuilt: same kind, same ordered children (images)
      (∀ o ∈ m', ∃ tup k bs as r, H o = .node tup k bs as ∧ phi H m' S.memo o = .ref r ∧ Val.ref r ∈ S.memo ∧
        S.heap r = ⟨k, bs.map (phi H m' S.memo), if tup then [] else as.map (phi H m' S.memo)⟩) ∧
      -- one new object per original object: sharing is preserved and nothing is merged
      (∀ o ∈ m', ∀ o' ∈ m', phi H m' S.memo o = phi H m' S.memo o' → o = o') ∧
      -- the pickled objects are closed under children (so they are everything reachable)
      (Known H m' root ∧ ∀ o ∈ m', ∀ tup k bs as, H o = .node tup k bs as →
        (∀ b ∈ bs, Known H m' b) ∧ (tup = false → ∀ a ∈ as, Known H m' a)) := by
  have hl := rec_ok hwf f root [] s m' h
  obtain ⟨heap, hrun, hb⟩ := hl.run m' List.prefix_rfl hn [] _ [] (Built.init H m' _)
  refine ⟨_, _, vmLoad_eq_some_iff.mpr ⟨hrun, rfl⟩, rfl, fun o ho => ?_, fun o ho o' ho' => hb.inj ho ho',
    hl.known root (List.mem_singleton_self _), fun o ho tup k bs as hH => ?_⟩
  · obtain ⟨i, hi⟩ := memoIdx_of_mem ho
    obtain ⟨tup, k, bs, as, aft, hH, hcell, _, haft⟩ := hb.node o i hi
    rw [(haft (List.not_mem_nil)).1] at hcell
    exact ⟨tup, k, bs, as, i, hH, img_node hH hi,
      List.mem_of_getElem? (getElem?_refs (memoIdx_some hi).1), hcell⟩
  · obtain ⟨i, hi⟩ := memoIdx_of_mem ho
    obtain ⟨tup', k', bs', as', _, hH', _, hbef, haft⟩ := hb.node o i hi
    obtain ⟨rfl, rfl, rfl, rfl⟩ : tup = tup' ∧ k = k' ∧ bs = bs' ∧ as = as' := by
      simpa [hH] using hH'
    exact ⟨hbef, (haft (List.not_mem_nil)).2⟩

/-- `Build1, Pop, Get` is the only thing `normalize` rewrites -/
theorem normalize_eq_self_of_noPop : ∀ (a : List POp), (∀ op ∈ a, op ≠ .pop) → normalize a = a := by
  intro a
  -- not `fun_induction normalize`: EG.Proofs.PickleSim uses it too, and the two copies of its
  -- auxiliary declarations clash where both modules are imported (EG.Props.C10Sim)
  induction a with
  | nil => intro _; rfl
  | cons op rest ih =>
    intro h
    rw [normalize.eq_2 _ _ fun k n i r _ e => h .pop (by rw [e]; simp) rfl,
      ih fun o ho => h o (List.mem_cons_of_mem _ ho)]

/-- the round trip for the stream of the QUEUE MACHINE of `nrpickler` (no recursion, any depth):
    whenever it is free of `POP`, it is the recursive pickler's stream and loads to the
    isomorphic heap -/
theorem C10_nr_load_roundtrip (H : Heap) (tupK : Nat → Bool) (hwf : KindsWF H tupK) (f root : Nat)
    (s : List POp) (m' : List Nat) (h : rec H f root [] = some (s, m')) (hn : NoReentry s) :
    ∃ fuel s', nrDump H fuel root = some (s', m') ∧
      (NoReentry s' → s' = s ∧ ∃ v S, vmLoad tupK s' = some (v, S) ∧ v = phi H m' S.memo root) := by
  obtain ⟨fuel, s', hd, hnorm⟩ := C10_dump_eq H f root s m' h
  refine ⟨fuel, s', hd, ?_⟩
  intro hn'
  have e : s' = s := by
    rw [← normalize_eq_self_of_noPop s' hn', ← normalize_eq_self_of_noPop s hn]; exact hnorm
  obtain ⟨v, S, hl, hv, _⟩ := C10_load_roundtrip H tupK hwf f root s m' h hn
  exact ⟨e, v, S, by rw [e]; exact hl, hv⟩

/-- non-vacuity 1: a graph with a cycle through instance state and a shared tuple
    (list [b, a]; b and a hold the same tuple t; b also holds the list itself) -/
example :
    let H : Heap := fun o => match o with
      | 0 => .node false 9 [] [1, 2]
      | 1 => .node false 1 [5] [3, 0]
      | 2 => .node false 1 [] [3]
      | 3 => .node true 7 [4] []
      | _ => .atom 7
    let tupK : Nat → Bool := fun k => k == 7
    ((rec H 10 0 []).bind fun r => (vmLoad tupK r.1).map fun p =>
      (p.1, (List.range p.2.next).map p.2.heap)) =
    some (.ref 0, [⟨9, [], [.ref 1, .ref 3]⟩, ⟨1, [.atom 7], [.ref 2, .ref 0]⟩, ⟨7, [.atom 7], []⟩,
      ⟨1, [], [.ref 2]⟩]) := by
  decide +kernel

/-- non-vacuity 2: the D10 shape — a tuple reachable from its own element (`t = (a,)`, `a.t = t`,
    root list [b, a] with `b.ref = t`): the stream of the recursive pickler contains `POP_MARK`,
    no `POP`, and loads with the tuple shared -/
example :
    let H : Heap := fun o => match o with
      | 0 => .node false 9 [] [1, 2]
      | 1 => .node false 1 [] [3]
      | 2 => .node false 1 [] [3]
      | 3 => .node true 7 [2] []
      | _ => .atom 0
    let tupK : Nat → Bool := fun k => k == 7
    ((rec H 10 0 []).map fun r => (r.1.contains (.discard 7 1), r.1.contains .pop)) = some (true, false) ∧
    ((rec H 10 0 []).bind fun r => (vmLoad tupK r.1).map fun p =>
      (p.1, (List.range p.2.next).map p.2.heap)) =
    some (.ref 0, [⟨9, [], [.ref 1, .ref 2]⟩, ⟨1, [], [.ref 3]⟩, ⟨1, [], [.ref 3]⟩, ⟨7, [.ref 2], []⟩]) := by
  decide +kernel

end Pk
end EG
