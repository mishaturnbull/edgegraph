import EG.Proofs.PickleSim
import EG.Props.C10Load
/-
  C10, loading the QUEUE MACHINE's own stream when a tuple was met again while its elements were
  being saved (the shape of defect D10).  There the machine of `nrpickler` writes `Build1, Pop, Get`
  where the recursive pickler writes `Discard, Get` (`C10_dump_eq`: the two streams agree up to
  exactly that replacement).  The unpickler cannot tell the two apart except for one unreachable
  object per occurrence: `C10_normalize_loads_alike` (any stream) and, with `C10_load_roundtrip`,
  `C10_nr_load_roundtrip_full`: the machine's own stream — not required to be free of `POP` —
  loads to the isomorphic heap: same kinds, same ORDERED children, one object per original, sharing
  preserved; the stack-equivalence behind `normalize` is proved, not trusted.
  Still a hypothesis: `NoReentry` for the RECURSIVE pickler's stream (no NON-tuple object met again
  while the arguments of its own reduce are being saved).
-/
namespace EG
namespace Pk

/-- the unpickler on `ops` and on `normalize ops`: the same result up to an injective renaming of
    the addresses (`ops` leaves unreachable objects behind) -/
theorem C10_normalize_loads_alike (tupK : Nat → Bool) (ops : List POp) (v : Val) (S : VM)
    (h : vmLoad tupK (normalize ops) = some (v, S)) :
    ∃ fs S', vmLoad tupK ops = some (mapV fs v, S') ∧
      (∀ r, r < S.next → S'.heap (fs.getD r 0) = mapNode fs (S.heap r)) ∧
      (∀ r r', r < S.next → r' < S.next → fs.getD r 0 = fs.getD r' 0 → r = r') ∧
      S'.memo = S.memo.map (mapV fs) ∧ WF S := by
  obtain ⟨hr, hst⟩ := vmLoad_eq_some_iff.mp h
  obtain ⟨fs, A', ha, hs, hw⟩ := run_sim_norm tupK ops [] {} {} S vsim_empty wf_empty hr
  exact ⟨fs, A', vmLoad_eq_some_iff.mpr ⟨ha, by rw [hs.stack, hst]; rfl⟩, hs.heap, hs.inj,
    hs.memo, hw⟩

/-- **the round trip for the stream of the queue machine of `nrpickler`**, re-entered tuples
    included: it loads; the value returned is the image of the root; every pickled object is
    rebuilt with its kind and its ordered children; distinct originals stay distinct, shared ones
    stay shared -/
theorem C10_nr_load_roundtrip_full (H : Heap) (tupK : Nat → Bool) (hwf : KindsWF H tupK) (f root : Nat)
    (s : List POp) (m' : List Nat) (h : rec H f root [] = some (s, m')) (hn : NoReentry s) :
    ∃ fuel s' ψ S', nrDump H fuel root = some (s', m') ∧
      vmLoad tupK s' = some (ψ root, S') ∧
      (∀ o ∈ m', ∃ tup k bs as r, H o = .node tup k bs as ∧ ψ o = .ref r ∧
        S'.heap r = ⟨k, bs.map ψ, if tup then [] else as.map ψ⟩) ∧
      (∀ o ∈ m', ∀ o' ∈ m', ψ o = ψ o' → o = o') := by
  obtain ⟨fuel, s', hd, hnorm⟩ := C10_dump_eq H f root s m' h
  obtain ⟨v, S, hl, hv, hobj, hinj, _⟩ := C10_load_roundtrip H tupK hwf f root s m' h hn
  have hns : normalize s' = s := by rw [hnorm, normalize_eq_self_of_noPop s hn]
  obtain ⟨fs, S', hl', hheap, hfinj, hmemo, hw⟩ := C10_normalize_loads_alike tupK s' v S (by rw [hns]; exact hl)
  refine ⟨fuel, s', fun o => mapV fs (phi H m' S.memo o), S', hd, ?_, ?_, ?_⟩
  · show vmLoad tupK s' = some (mapV fs (phi H m' S.memo root), S')
    rw [← hv]; exact hl'
  · intro o ho
    obtain ⟨tup, k, bs, as, r, h1, h2, h3, h4⟩ := hobj o ho
    have hr : r < S.next := hw.memo _ h3
    refine ⟨tup, k, bs, as, fs.getD r 0, h1, by simp only [h2, mapV], ?_⟩
    rw [hheap r hr, h4]
    simp only [mapNode, List.map_map]
    cases tup <;> simp [Function.comp_def]
  · intro o ho o' ho' he
    obtain ⟨_, _, _, _, r, _, h2, h3, _⟩ := hobj o ho
    obtain ⟨_, _, _, _, r', _, h2', h3', _⟩ := hobj o' ho'
    simp only [h2, h2', mapV, Val.ref.injEq] at he
    have := hfinj r r' (hw.memo _ h3) (hw.memo _ h3') he
    exact hinj o ho o' ho' (by rw [h2, h2', this])

/-- non-vacuity: the D10 shape (`t = (a,)`, `a.t = t`, root list [b, a], `b.ref = t`).  The queue
    machine's stream contains `POP`, the recursive pickler's `POP_MARK`; both load, the second heap
    is the first with one unreachable tuple (address 4) left behind -/
example :
    let H : Heap := fun o => match o with
      | 0 => .node false 9 [] [1, 2]
      | 1 => .node false 1 [] [3]
      | 2 => .node false 1 [] [3]
      | 3 => .node true 7 [2] []
      | _ => .atom 0
    let tupK : Nat → Bool := fun k => k == 7
    ((nrDump H 100 0).map fun r => (r.1.contains .pop, r.1.contains (.discard 7 1))) = some (true, false) ∧
    ((nrDump H 100 0).bind fun r => (vmLoad tupK r.1).map fun p =>
      (p.1, (List.range p.2.next).map p.2.heap)) =
    some (.ref 0, [⟨9, [], [.ref 1, .ref 2]⟩, ⟨1, [], [.ref 3]⟩, ⟨1, [], [.ref 3]⟩, ⟨7, [.ref 2], []⟩, ⟨7, [.ref 2], []⟩]) := by
  decide +kernel

end Pk
end EG
