import EG.Proofs.BuildLemmas
/-
  C11 — adjacency builders build exactly the described graph; bad input rejected whole.
  Statements are about the mirror model (`M.prims`); `adj` is the adjacency dict as an
  association list in dict order, `matrix` the cells reduced to their truth values.
  `hc` / `hlt` belong to the statements but are not needed.
-/
namespace EG

/-- the vertices named by an adjacency dict, in order of mention: k₁, v₁₁, v₁₂, …, k₂, … -/
def mentions (adj : List (VId × List VId)) : List VId := adj.flatMap fun p => p.1 :: p.2

/-- the listed pairs in input order -/
def dictPairs (adj : List (VId × List VId)) : List (VId × VId) :=
  adj.flatMap fun p => p.2.map fun v => (p.1, v)

/-- the truthy cells of a matrix in row-major order, as (row vertex, column vertex) -/
def matPairs (verts : List VId) (matrix : List (List Bool)) : List (VId × VId) :=
  (matrix.zip verts).flatMap fun rv =>
    ((rv.1.zip verts).filter (·.1)).map fun cv => (rv.2, cv.2)

def adjValid (w : World) (adj : List (VId × List VId)) : Prop :=
  ∀ p ∈ adj, p.1 < w.nV ∧ ∀ v ∈ p.2, v < w.nV

/-- what "exactly the described graph, pre-existing things left in place" means for a builder
    call that returned universe `u` in world `w'`, for the pair list `pairs` and mention list `ms` -/
structure Built (w w' : World) (u : VId) (c : LCls) (pairs : List (VId × VId)) (ms : List VId) : Prop where
  inv : Inv w'
  uni_new : u = w.nV ∧ w'.nV = w.nV + 1 ∧ w'.vcls u = .UNI
  members : w'.members u = dedupKeepFirst ms
  nlinks : w'.nL = w.nL + pairs.length
  new_links : ∀ i (h : i < pairs.length),
    w'.ends (w.nL + i) = [some (pairs[i]).1, some (pairs[i]).2] ∧ w'.lcls (w.nL + i) = c
  old_links : ∀ l, l < w.nL → w'.ends l = w.ends l ∧ w'.lcls l = w.lcls l
  links_prefix : ∀ v, v < w.nV → ∃ more, w'.links v = w.links v ++ more ∧ ∀ l ∈ more, w.nL ≤ l
  unis_prefix : ∀ v, v < w.nV → ∃ more, w'.unis v = w.unis v ++ more ∧ ∀ x ∈ more, x = u
  old_members : ∀ x, x < w.nV → w'.members x = w.members x

theorem Built.of_B {w w' : World} {u : VId} {c : LCls} {pairs : List (VId × VId)}
    {ms : List VId} (hb : B.Built w w' u c pairs ms) : Built w w' u c pairs ms :=
  ⟨hb.inv, hb.uni_new, hb.members, hb.nlinks, hb.new_links, hb.old_links, hb.links_prefix,
    hb.unis_prefix, hb.old_members⟩

set_option linter.unusedVariables false in
theorem C11_dict_builds (w : World) (c : LCls) (adj : List (VId × List VId))
    (h : Inv w) (hc : c.kind ≠ .nary) (hv : adjValid w adj) :
    ∃ w', C.loadAdjDict M.prims w c adj = .ok (w', w.nV) ∧
      Built w w' w.nV c (dictPairs adj) (mentions adj) := by
  obtain ⟨w', e, hb⟩ := B.loadAdjDict_S B.plain_M w c adj h hv
  exact ⟨w', e, Built.of_B hb.built⟩

set_option linter.unusedVariables false in
theorem C11_matrix_builds (w : World) (c : LCls) (matrix : List (List Bool)) (verts : List VId)
    (h : Inv w) (hc : c.kind ≠ .nary) (hv : ∀ v ∈ verts, v < w.nV)
    (hlen : verts.length = matrix.length) (hsq : ∀ row ∈ matrix, row.length = matrix.length) :
    ∃ w', C.loadAdjMatrix M.prims w c matrix verts = .ok (w', w.nV) ∧
      Built w w' w.nV c (matPairs verts matrix) verts := by
  obtain ⟨w', e, hb⟩ := B.loadAdjMatrix_S B.plain_M w c matrix verts h hv hlen hsq
  exact ⟨w', e, Built.of_B hb.built⟩

/-- a non-square matrix or a side array of the wrong length raises ValueError; the world is
    untouched because the answer carries no new world at all -/
theorem C11_matrix_bad_input (w : World) (c : LCls) (matrix : List (List Bool)) (verts : List VId)
    (hbad : verts.length ≠ matrix.length ∨ ∃ row ∈ matrix, row.length ≠ matrix.length) :
    C.loadAdjMatrix M.prims w c matrix verts = .error .value := by
  unfold C.loadAdjMatrix
  by_cases h1 : verts.length ≠ matrix.length
  · rw [if_pos h1]
  · rw [if_neg h1]
    rcases hbad with hb | ⟨row, hr, hne⟩
    · exact absurd hb h1
    · have hany : (matrix.any fun row => decide (row.length ≠ matrix.length)) = true := by
        rw [List.any_eq_true]
        exact ⟨row, hr, by simpa using hne⟩
      rw [if_pos hany]

/-- the new links a vertex is an end of, in creation order -/
def gained (w : World) (pairs : List (VId × VId)) (v : VId) : List LId :=
  ((List.range pairs.length).filter
    (fun i => (pairs.getD i (0, 0)).1 == v || (pairs.getD i (0, 0)).2 == v)).map (w.nL + ·)

/-- the words of the statements exist twice, here and (for the helpers below this file) in `EG.B`;
    the two copies are the same functions -/
example : @gained = @B.gained ∧ @dictPairs = @B.dictPairs ∧ @mentions = @B.mentions ∧
    ∀ v m, matPairs v m = B.matPairsG v m v := ⟨rfl, rfl, rfl, fun _ _ => rfl⟩

set_option linter.unusedVariables false in
/-- the links a vertex gains are exactly the new links it is an end of, in creation order
    (this is what makes reading the result back with `neighbors()` / `find_links` reproduce the
    input adjacency, by C04 / C09) -/
theorem C11_dict_links_of_vertex (w w' : World) (c : LCls) (adj : List (VId × List VId)) (u : VId)
    (h : Inv w) (hc : c.kind ≠ .nary) (hv : adjValid w adj)
    (hr : C.loadAdjDict M.prims w c adj = .ok (w', u)) (v : VId) (hlt : v < w.nV) :
    w'.links v = w.links v ++ gained w (dictPairs adj) v := by
  exact (B.spec_of_result (B.loadAdjDict_S B.plain_M w c adj h hv) hr).links v

set_option linter.unusedVariables false in
theorem C11_matrix_links_of_vertex (w w' : World) (c : LCls) (matrix : List (List Bool))
    (verts : List VId) (u : VId)
    (h : Inv w) (hc : c.kind ≠ .nary) (hv : ∀ x ∈ verts, x < w.nV)
    (hlen : verts.length = matrix.length) (hsq : ∀ row ∈ matrix, row.length = matrix.length)
    (hr : C.loadAdjMatrix M.prims w c matrix verts = .ok (w', u)) (v : VId) (hlt : v < w.nV) :
    w'.links v = w.links v ++ gained w (matPairs verts matrix) v := by
  exact (B.spec_of_result (B.loadAdjMatrix_S B.plain_M w c matrix verts h hv hlen hsq) hr).links v

/-- non-vacuity: a dict with a self entry, a vertex mentioned before it is a key and an empty row;
    members in order of first mention, vertex 0 on all four links, link 1 the self-loop -/
example :
    let w := (M.run (fun _ _ _ => true) [.newVertex .V [] [] [], .newVertex .V [] [] [], .newVertex .V [] [] []]).1
    (match C.loadAdjDict M.prims w .U [(0, [1, 0, 2]), (2, []), (1, [0])] with
     | .ok (w', u) => (u, w'.members u, w'.links 0, w'.ends 1, w'.nL)
     | .error _ => (0, [], [], [], 0)) = (3, [0, 1, 2], [0, 1, 2, 3], [some 0, some 0], 4) := by
  decide +kernel

end EG
