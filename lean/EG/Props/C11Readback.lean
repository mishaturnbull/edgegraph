import EG.Proofs.ReadbackLemmas
import EG.Proofs.UnlinkLemmas
import EG.Props.C11
/-
  C11 (read-back) and C03 (order-independence of unlink's loop over a Python set).
  `hx` / `hs` / `hn` belong to the statements but are not needed.
-/
namespace EG

/-- multiplicity of the ordered pair (x, y) in the listed pairs -/
def mult (pairs : List (VId × VId)) (x y : VId) : Nat := (pairs.filter (fun p => p.1 == x && p.2 == y)).length

set_option linter.unusedVariables false in
/-- reading the result of `load_adj_dict` back with `neighbors()` reproduces the input adjacency:
    for a vertex `x` that had no links before, `y` occurs among its neighbours under
    DIR_SENS_ANY exactly as often as (x, y) or (y, x) was listed (a self entry counted once) … -/
theorem C11_dict_readback_any (F : Nat → LId → Option VId → Bool) (w w' : World) (c : LCls)
    (adj : List (VId × List VId)) (u : VId) (h : Inv w) (hc : c.kind ≠ .nary) (hv : adjValid w adj)
    (hr : C.loadAdjDict M.prims w c adj = .ok (w', u)) (x y : VId) (hx : x < w.nV)
    (hnew : w.links x = []) (unk : Nat) :
    ∃ r, M.neighborsPure w' F x 1 unk none = .ok r ∧
      r.count (some y) = mult (dictPairs adj) x y + (if x = y then 0 else mult (dictPairs adj) y x) :=
  (B.spec_of_result (B.loadAdjDict_S B.plain_M w c adj h hv) hr).readback_any F x y hnew hc unk

set_option linter.unusedVariables false in
/-- … and, for a DIRECTED link type, under DIR_SENS_FORWARD exactly as often as (x, y) was
    listed (orientation key → value), under DIR_SENS_BACKWARD as often as (y, x) was -/
theorem C11_dict_readback_directed (F : Nat → LId → Option VId → Bool) (w w' : World) (c : LCls)
    (adj : List (VId × List VId)) (u : VId) (h : Inv w) (hc : c.kind = .directed) (hv : adjValid w adj)
    (hr : C.loadAdjDict M.prims w c adj = .ok (w', u)) (x y : VId) (hx : x < w.nV)
    (hnew : w.links x = []) (unk : Nat) :
    (∃ r, M.neighborsPure w' F x 0 unk none = .ok r ∧ r.count (some y) = mult (dictPairs adj) x y) ∧
    (∃ r, M.neighborsPure w' F x 2 unk none = .ok r ∧ r.count (some y) = mult (dictPairs adj) y x) :=
  (B.spec_of_result (B.loadAdjDict_S B.plain_M w c adj h hv) hr).readback_directed F x y hnew hc unk

set_option linter.unusedVariables false in
/-- for an UNDIRECTED link type every direction gives the symmetric closure -/
theorem C11_dict_readback_undirected (F : Nat → LId → Option VId → Bool) (w w' : World) (c : LCls)
    (adj : List (VId × List VId)) (u : VId) (h : Inv w) (hc : c.kind = .undirected) (hv : adjValid w adj)
    (hr : C.loadAdjDict M.prims w c adj = .ok (w', u)) (x y : VId) (hx : x < w.nV)
    (hnew : w.links x = []) (dir unk : Nat) (hd : dir ≤ 2) :
    ∃ r, M.neighborsPure w' F x dir unk none = .ok r ∧
      r.count (some y) = mult (dictPairs adj) x y + (if x = y then 0 else mult (dictPairs adj) y x) :=
  (B.spec_of_result (B.loadAdjDict_S B.plain_M w c adj h hv) hr).readback_undirected F x y hnew hc dir unk hd

set_option linter.unusedVariables false in
/-- the same for `load_adj_matrix`: with `matPairs verts matrix` = the list of (row vertex,
    column vertex) for every truthy cell in row-major order, a vertex `x` without earlier links
    reads back `y` under DIR_SENS_ANY as often as cell (x, y) or (y, x) is set … -/
theorem C11_matrix_readback_any (F : Nat → LId → Option VId → Bool) (w w' : World) (c : LCls)
    (matrix : List (List Bool)) (verts : List VId) (u : VId) (h : Inv w) (hc : c.kind ≠ .nary)
    (hv : ∀ v ∈ verts, v < w.nV) (hlen : verts.length = matrix.length)
    (hsq : ∀ row ∈ matrix, row.length = matrix.length)
    (hr : C.loadAdjMatrix M.prims w c matrix verts = .ok (w', u)) (x y : VId) (hx : x < w.nV)
    (hnew : w.links x = []) (unk : Nat) :
    ∃ r, M.neighborsPure w' F x 1 unk none = .ok r ∧
      r.count (some y) = mult (matPairs verts matrix) x y +
        (if x = y then 0 else mult (matPairs verts matrix) y x) :=
  (B.spec_of_result (B.loadAdjMatrix_S B.plain_M w c matrix verts h hv hlen hsq) hr).readback_any F x y hnew hc unk

set_option linter.unusedVariables false in
/-- … for a DIRECTED link type FORWARD gives row → column, BACKWARD column → row -/
theorem C11_matrix_readback_directed (F : Nat → LId → Option VId → Bool) (w w' : World) (c : LCls)
    (matrix : List (List Bool)) (verts : List VId) (u : VId) (h : Inv w) (hc : c.kind = .directed)
    (hv : ∀ v ∈ verts, v < w.nV) (hlen : verts.length = matrix.length)
    (hsq : ∀ row ∈ matrix, row.length = matrix.length)
    (hr : C.loadAdjMatrix M.prims w c matrix verts = .ok (w', u)) (x y : VId) (hx : x < w.nV)
    (hnew : w.links x = []) (unk : Nat) :
    (∃ r, M.neighborsPure w' F x 0 unk none = .ok r ∧ r.count (some y) = mult (matPairs verts matrix) x y) ∧
    (∃ r, M.neighborsPure w' F x 2 unk none = .ok r ∧ r.count (some y) = mult (matPairs verts matrix) y x) :=
  (B.spec_of_result (B.loadAdjMatrix_S B.plain_M w c matrix verts h hv hlen hsq) hr).readback_directed F x y hnew hc unk

set_option linter.unusedVariables false in
/-- … and for an UNDIRECTED link type every direction gives the symmetric closure -/
theorem C11_matrix_readback_undirected (F : Nat → LId → Option VId → Bool) (w w' : World) (c : LCls)
    (matrix : List (List Bool)) (verts : List VId) (u : VId) (h : Inv w) (hc : c.kind = .undirected)
    (hv : ∀ v ∈ verts, v < w.nV) (hlen : verts.length = matrix.length)
    (hsq : ∀ row ∈ matrix, row.length = matrix.length)
    (hr : C.loadAdjMatrix M.prims w c matrix verts = .ok (w', u)) (x y : VId) (hx : x < w.nV)
    (hnew : w.links x = []) (dir unk : Nat) (hd : dir ≤ 2) :
    ∃ r, M.neighborsPure w' F x dir unk none = .ok r ∧
      r.count (some y) = mult (matPairs verts matrix) x y +
        (if x = y then 0 else mult (matPairs verts matrix) y x) :=
  (B.spec_of_result (B.loadAdjMatrix_S B.plain_M w c matrix verts h hv hlen hsq) hr).readback_undirected F x y hnew hc dir unk hd

set_option linter.unusedVariables false in
/-- `explicit.unlink` iterates a Python `set`: the resulting world does not depend on the order
    in which the joining links are processed -/
theorem C03_unlink_order_independent (w : World) (a b : VId) (J J' : List LId)
    (hs : Sym w) (hp : J.Perm J') (hn : J.Nodup) :
    C.unlinkEach S.prims w a b J = C.unlinkEach S.prims w a b J' := by
  exact S.unlinkEach_perm w a b J J' hp

/-- `mult` counts ordered pairs -/
example : mult [(0, 1), (0, 0), (0, 1), (1, 0)] 0 1 = 2 ∧ mult [(0, 1), (0, 0), (0, 1), (1, 0)] 1 0 = 1 := by decide

end EG
