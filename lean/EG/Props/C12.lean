import EG.Alias
/-
  C12 — containers handed out or taken in are snapshots; mutating them changes nothing.
  In the mirror model every accessor returns a value and every constructor argument is a
  value, so the theorem is short; its content is that the MODEL the code is compared with has
  no aliasing at all.  The weight of C12 is in the correspondence: the harness really mutates
  every container the real code hands out or is given, and every later observation must still
  agree with this alias-free model.
-/
namespace EG
namespace A

theorem step_call (F : Nat → LId → Option VId → Bool) (s s' : State) (o : Op) (h : s.w = s'.w) :
    (step F s (.call o)).1.w = (step F s' (.call o)).1.w ∧
    (step F s (.call o)).2 = (step F s' (.call o)).2 := by
  simp [step, h]

theorem step_mutate_w (F : Nat → LId → Option VId → Bool) (s : State) (i : Nat) (e : Edit) :
    (step F s (.mutate i e)).1.w = s.w := rfl

theorem run_world_answers (F : Nat → LId → Option VId → Bool) (ops : List AOp) :
    ∀ s s' : State, s.w = s'.w →
      (run F s ops).1.w = (run F s' (calls ops)).1.w ∧
      callAnswers ops (run F s ops).2 = (run F s' (calls ops)).2 := by
  induction ops with
  | nil => exact fun s s' h => ⟨h, rfl⟩
  | cons op ops ih =>
    intro s s' h
    cases op with
    | call o =>
      obtain ⟨h1, h2⟩ := step_call F s s' o h
      obtain ⟨ih1, ih2⟩ := ih _ _ h1
      refine ⟨ih1, ?_⟩
      simp only [run, calls, callAnswers]
      rw [ih2, h2]
    | mutate i e => exact ih _ s' ((step_mutate_w F s i e).trans h)

/-- non-interference: for every history interleaving public calls with arbitrary caller-side
    edits of any container handed out so far (caching on or off — the flag is part of the
    world), the world and the answers of all public calls are those of the history with the
    edits erased -/
theorem C12_noninterference (F : Nat → LId → Option VId → Bool) (ops : List AOp) (w : World) :
    (run F ⟨w, []⟩ ops).1.w = (run F ⟨w, []⟩ (calls ops)).1.w ∧
    callAnswers ops (run F ⟨w, []⟩ ops).2 = (run F ⟨w, []⟩ (calls ops)).2 :=
  run_world_answers F ops _ _ rfl

/-- a handed-out container is a copy: the cached `neighbors()` answer is not the list the
    caller holds — editing the caller's list leaves the memo (and every later answer) alone -/
theorem C12_cached_answer_detached (F : Nat → LId → Option VId → Bool) (w : World) (v : VId)
    (dir unk : Nat) (filt : Option Nat) (e : Edit) :
    let s1 := (step F ⟨w, []⟩ (.call (.neighbors v dir unk filt none))).1
    let s2 := (step F s1 (.mutate 0 e)).1
    s2.w = s1.w ∧ (step F s2 (.call (.neighbors v dir unk filt none))).2 =
      (step F s1 (.call (.neighbors v dir unk filt none))).2 :=
  ⟨rfl, (step_call F _ _ _ rfl).2⟩

/-- non-vacuity: the caller clears and appends to two results; later answers are unaffected -/
example :
    let F : Nat → LId → Option VId → Bool := fun _ _ _ => true
    let ops : List AOp :=
      [.call (.newVertex .V [] [] []), .call (.newVertex .V [] [] []), .call (.flag true),
       .call (.newEdge .D (some 0) (some 1)), .call (.neighbors 0 0 2 none none),
       .mutate 0 (.append (some 0)), .mutate 0 .clear, .call (.neighbors 0 0 2 none none)]
    (run F ⟨World.init, []⟩ ops).2.getLast? = some (.verts [some 1]) := by
  intro F ops; decide +kernel

end A
end EG
