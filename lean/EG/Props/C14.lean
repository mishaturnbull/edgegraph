import EG.Proofs.RenderLemmas
import EG.Proofs.Sym
/-
  C14 — PlantUML source shows each member vertex and each internal link once, oriented.
  The model is the STRUCTURE of the source: the declaration header lines (member order) and
  the relation lines; the text layer around them is parsed back by the harness.
-/
namespace EG
namespace R

/-- an empty universe yields None -/
theorem C14_empty (w : World) (o : POpts) (u : VId) (h : w.members u = []) :
    pumlDoc w o u = .ok none := by
  simp [pumlDoc, h]

/-- each member is declared exactly once, in universe order, under its title and with the
    options of the nearest configured class of its hierarchy -/
theorem C14_decl_once (w : World) (o : POpts) (u : VId) (decls rels : List String)
    (h : pumlDoc w o u = .ok (some (decls, rels))) :
    decls.length = (w.members u).length ∧
    ∀ i (hi : i < (w.members u).length), ∃ vo t,
      resolveV o (w.vcls ((w.members u)[i])) = .ok vo ∧ title w vo ((w.members u)[i]) = .ok t ∧
      decls[i]? = some s!"{vo.type} {t} <<{clsName (w.vcls ((w.members u)[i]))}>>" := by
  obtain ⟨hd, -⟩ := pumlDoc_ok w o u decls rels h
  obtain ⟨hl, hi'⟩ := mapE_ok _ _ _ hd
  refine ⟨hl, ?_⟩
  intro i hi
  obtain ⟨y, hy1, hy2⟩ := hi' i hi
  obtain ⟨vo, t, h1, h2, h3⟩ := declOf_ok w o _ y hy2
  exact ⟨vo, t, h1, h2, by rw [hy1, h3]⟩

/-- the links shown are exactly the links attached to some member, each once -/
theorem C14_shown_links (w : World) (u : VId) :
    (shownLinks w u).Nodup ∧ ∀ l, l ∈ shownLinks w u ↔ ∃ m ∈ w.members u, l ∈ w.links m := by
  refine ⟨nodup_eraseDups _, ?_⟩
  intro l
  simp only [shownLinks, List.mem_eraseDups, List.mem_flatMap]

/-- each link whose two ends are members (indeed each link attached to a member) appears as
    exactly one relation line, and no relation line is emitted for a link that does not exist:
    the relation lines are, one for one, the shown links -/
theorem C14_relations_exact (w : World) (o : POpts) (u : VId) (decls rels : List String)
    (h : pumlDoc w o u = .ok (some (decls, rels))) :
    rels.length = (shownLinks w u).length ∧
    ∀ i (hi : i < (shownLinks w u).length), relOf w o ((shownLinks w u)[i]) = .ok (rels.getD i "") := by
  obtain ⟨-, hr⟩ := pumlDoc_ok w o u decls rels h
  obtain ⟨hl, hi'⟩ := mapE_ok _ _ _ hr
  refine ⟨hl, ?_⟩
  intro i hi
  obtain ⟨y, hy1, hy2⟩ := hi' i hi
  rw [hy2, List.getD_eq_getElem?_getD, hy1]
  rfl

/-- every link with both ends members is shown (by C01's symmetry it is attached to them) -/
theorem C14_internal_link_shown (w : World) (u : VId) (hs : Sym w) (l : LId) (a b : VId)
    (he : w.ends l = [some a, some b]) (ha : a ∈ w.members u) :
    l ∈ shownLinks w u := by
  rw [(C14_shown_links w u).2]
  exact ⟨a, ha, (hs.iff a l).mpr (by simp [he])⟩

/-- orientation and arrow ends: the relation line of a link runs from the title of v1 to the
    title of v2 with the arrow ends configured for the nearest configured class of the link -/
theorem C14_orientation (w : World) (o : POpts) (l : LId) (a b : VId) (rest : List (Option VId))
    (s : String) (he : w.ends l = some a :: some b :: rest) (h : relOf w o l = .ok s) :
    ∃ lo oa ob ta tb, resolveL o (w.lcls l) = .ok lo ∧ resolveV o (w.vcls a) = .ok oa ∧
      resolveV o (w.vcls b) = .ok ob ∧ title w oa a = .ok ta ∧ title w ob b = .ok tb ∧
      s = s!"{ta} {lo.v1side}--{lo.v2side} {tb}" :=
  (relOf_ok w o l a b rest s he h).2

/-- nearest configured class: a subclass without its own entry uses its parent's options, a
    subclass with its own entry uses its own -/
theorem C14_resolve_nearest (o : POpts) :
    (∀ x, o.lopt .DD = none → o.lopt .D = some x → resolveL o .DD = .ok x) ∧
    (∀ x, o.lopt .DD = some x → resolveL o .DD = .ok x) ∧
    (∀ x, o.vopt .SV = none → o.vopt .V = some x → resolveV o .SV = .ok x) ∧
    (∀ x, o.vopt .SV = some x → resolveV o .SV = .ok x) := by
  refine ⟨?_, ?_, ?_, ?_⟩ <;> intro x <;> intros <;> simp [resolveL, resolveV, lMro, vMro, List.findSome?, *]

/-- … also for a class with several bases: the lookup follows the method resolution order
    (MV(SV, MX): MV, SV, MX, Vertex), so a configured SECOND base wins over the root class, and
    a configured first base wins over the second -/
theorem C14_resolve_mro (o : POpts) :
    (∀ x, o.vopt .MV = none → o.vopt .SV = none → o.vopt .MX = some x → resolveV o .MV = .ok x) ∧
    (∀ x, o.vopt .MV = none → o.vopt .SV = some x → resolveV o .MV = .ok x) ∧
    (∀ x, o.vopt .MV = none → o.vopt .SV = none → o.vopt .MX = none → o.vopt .V = some x →
      resolveV o .MV = .ok x) := by
  refine ⟨?_, ?_, ?_⟩ <;> intro x <;> intros <;> simp [resolveV, vMro, List.findSome?, *]

/-- … and for a link class deriving from both edge classes (`DU(DirectedEdge, UnDirectedEdge)`):
    its own entry first, else DirectedEdge's, else UnDirectedEdge's -/
theorem C14_resolve_mro_link (o : POpts) :
    (∀ x, o.lopt .DU = none → o.lopt .D = some x → resolveL o .DU = .ok x) ∧
    (∀ x, o.lopt .DU = none → o.lopt .D = none → o.lopt .U = some x → resolveL o .DU = .ok x) ∧
    (∀ x, o.lopt .DU = some x → resolveL o .DU = .ok x) := by
  refine ⟨?_, ?_, ?_⟩ <;> intro x <;> intros <;> simp [resolveL, lMro, List.findSome?, *]

end R
end EG
