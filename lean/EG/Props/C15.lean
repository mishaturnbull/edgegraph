import EG.Proofs.RenderLemmas
import EG.Proofs.Sym
import EG.Step
/-
  C15 — PyVis export: one node per member vertex, only real edges, correctly directed.
  `ms = w.members u`; node ids are positions in `ms`.
-/
namespace EG
namespace R

/-- exactly one node per member, ids 0..n-1 in universe order, labelled by rvfunc -/
theorem C15_nodes (w : World) (u : VId) (rv : VId → String) (re : Option (LId → String))
    (nodes : List (Nat × String)) (edges : List PEdge) (h : pyvisNet w u rv re = .ok (nodes, edges)) :
    nodes = ((List.range (w.members u).length).zip (w.members u)).map (fun p => (p.1, rv p.2)) := by
  exact (pyvisNet_ok w u rv re nodes edges h).1

/-- edge `e` is the drawing of link `l`: `l` is attached to the member at position `e.src`, that
    member is its v1, the member at position `e.dst` is its v2, and the edge is arrowed exactly
    when the link is a directed edge -/
def DrawnFrom (w : World) (ms : List VId) (e : PEdge) (l : LId) : Prop :=
  ∃ a b rest, w.ends l = some a :: some b :: rest ∧ l ∈ w.links a ∧
    indexOf? ms a = some e.src ∧ indexOf? ms b = some e.dst ∧
    e.arrows = ((w.lcls l).subDirected)

/-- every edge corresponds to a link between the two MEMBER vertices it joins, oriented v1→v2,
    arrowed iff the link is a directed edge; in particular no edge or node is produced for a
    vertex outside the universe -/
theorem C15_edges_sound (w : World) (u : VId) (rv : VId → String) (re : Option (LId → String))
    (nodes : List (Nat × String)) (edges : List PEdge) (hn : (w.members u).Nodup)
    (h : pyvisNet w u rv re = .ok (nodes, edges)) :
    ∀ e ∈ edges, e.src < (w.members u).length ∧ e.dst < (w.members u).length ∧
      ∃ l, DrawnFrom w (w.members u) e l := by
  obtain ⟨-, hsub, -, -⟩ := pyvisNet_ok w u rv re nodes edges h
  intro e hmem
  obtain ⟨⟨k, v⟩, hp, hm⟩ := List.mem_flatMap.mp (hsub.subset hmem)
  obtain ⟨l, hl, hd⟩ := List.mem_filterMap.mp hm
  obtain ⟨rfl, b, rest, hE, hj, ha, -⟩ := drawOf_eq_some.mp hd
  have hk := indexOf?_of_getElem? _ hn _ _ ((mem_zip_range _ _ v).mp hp)
  exact ⟨(indexOf?_some _ _ _ hk).1, (indexOf?_some _ _ _ hj).1, l, v, b, rest, hE, hl, hk, hj, ha⟩

set_option linter.unusedVariables false in
/-- arrowed edges i→j are in one-to-one correspondence with the directed links from member i to
    member j: their number equals the number of such links.  (`hs : Sym w` is carried by the
    statement without need: symmetry plays no part in the count.) -/
theorem C15_arrowed_count (w : World) (u : VId) (rv : VId → String) (re : Option (LId → String))
    (nodes : List (Nat × String)) (edges : List PEdge) (hs : Sym w) (hn : (w.members u).Nodup)
    (h : pyvisNet w u rv re = .ok (nodes, edges)) (i j : Nat) (a b : VId)
    (hi : (w.members u)[i]? = some a) (hj : (w.members u)[j]? = some b) :
    (edges.filter (fun e => e.arrows && e.src == i && e.dst == j)).length =
      ((w.links a).filter (fun l => (w.lcls l).subDirected &&
        (w.ends l).take 2 == [some a, some b])).length := by
  obtain ⟨-, -, har, -⟩ := pyvisNet_ok w u rv re nodes edges h
  have hP : ∀ es : List PEdge, es.filter (fun e => e.arrows && e.src == i && e.dst == j) =
      (es.filter (·.arrows)).filter fun e => e.src == i && e.dst == j := fun es => by
    rw [List.filter_filter]
    exact congrArg (List.filter · es) (funext fun e => by rw [Bool.and_assoc, Bool.and_comm])
  rw [hP, har, ← hP, ← List.countP_eq_length_filter, ← List.countP_eq_length_filter]
  exact arrowed_draws hn hi hj

/-- conversely every link whose two ends are members, including a self-loop, leaves its pair of
    nodes joined by at least one edge -/
theorem C15_complete (w : World) (u : VId) (rv : VId → String) (re : Option (LId → String))
    (nodes : List (Nat × String)) (edges : List PEdge) (hs : Sym w) (hn : (w.members u).Nodup)
    (h : pyvisNet w u rv re = .ok (nodes, edges)) (l : LId) (a b : VId) (i j : Nat)
    (he : w.ends l = [some a, some b])
    (hi : (w.members u)[i]? = some a) (hj : (w.members u)[j]? = some b) :
    ∃ e ∈ edges, (e.src = i ∧ e.dst = j) ∨ (e.src = j ∧ e.dst = i) := by
  obtain ⟨-, -, -, hj'⟩ := pyvisNet_ok w u rv re nodes edges h
  have hd : (⟨i, j, (w.lcls l).subDirected, re.map (· l)⟩ : PEdge) ∈ draws w (w.members u) re
      ((List.range (w.members u).length).zip (w.members u)) :=
    List.mem_flatMap.mpr ⟨(i, a), (mem_zip_range ..).mpr hi, List.mem_filterMap.mpr
      ⟨l, (hs.iff a l).mpr (by simp [he]), drawOf_eq_some.mpr
        ⟨rfl, b, [], he, indexOf?_of_getElem? _ hn _ _ hj, rfl, rfl⟩⟩⟩
  exact hj' _ hd

/-- non-vacuity: mixed parallel edges and a self-loop -/
example :
    let w := (M.run (fun _ _ _ => true)
      [.newVertex .V [] [] [], .newVertex .V [] [] [], .newVertex .V [] [] [],
       .newEdge .D (some 0) (some 1), .newEdge .U (some 1) (some 0), .newEdge .D (some 0) (some 0),
       .newEdge .D (some 1) (some 2), .newUniverse [] [0, 1] none]).1
    (match pyvisNet w 3 (fun v => s!"v{v}") none with
     | .ok (ns, es) => (ns, es.map fun e => (e.src, e.dst, e.arrows))
     | .error _ => ([], [])) = ([(0, "v0"), (1, "v1")], [(0, 1, true), (0, 0, true)]) := by
  decide +kernel

end R
end EG
