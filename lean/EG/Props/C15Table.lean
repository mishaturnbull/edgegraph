import EG.Generated.PyvisTable
import EG.Proofs.RenderWorld
/-
  C15 (the tie to the code, regenerated on every run) — the real `make_pyvis_net`, evaluated
  on every world of two links (first link: 6 classes × ends among two members and an outsider;
  second link: 6 classes × ends among the members; 1296 rows), draws exactly the edges the
  mirror model `R.pyvisNet` draws, in the same order with the same arrows; and on every row the
  edge list satisfies the statement (sound, one arrowed edge per directed link, complete).
  Kernel evaluation over the complete table.
-/
namespace EG
namespace Tab

theorem C15_table_complete : implPv.length = 1296 := by decide +kernel

/-- real code = mirror model on every row; evaluated in the form `modelPv_eq`, which holds for every row -/
theorem C15_impl_eq_model : implPv.all pvRowOk = true := by
  unfold pvRowOk
  simp only [modelPv_eq]
  decide +kernel

/-- real code satisfies the statement on every row -/
theorem C15_impl_eq_spec : implPv.all pvRowSpecOk = true := by decide +kernel

end Tab
end EG
