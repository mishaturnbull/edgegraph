import EG.Proofs.RenderLemmas
/-
  C16 — plain-text rendering: one well-formed line per vertex listing its neighbours.
  `rf` is the rendering function (rfunc or repr), `nb v` the FORWARD neighbours of `v` as
  `neighbors()` returns them.  Property theorems only.
-/
namespace EG
namespace R

/-- an empty universe yields None -/
theorem C16_empty (w : World) (F : Nat → LId → Option VId → Bool) (u : VId) (rf : RFun)
    (sort : Option (Option VId → Nat)) (h : w.members u = []) :
    basicRender w F u rf sort = .ok none := by
  simp [basicRender, h]

/-- without a sort key: one line per member, in universe order, each the vertex's rendering,
    ` -> `, and the renderings of its neighbours in `neighbors()` order joined by `, ` -/
theorem C16_lines (w : World) (F : Nat → LId → Option VId → Bool) (u : VId) (rf : RFun)
    (nb : VId → List (Option VId)) (hne : w.members u ≠ [])
    (hnb : ∀ v ∈ w.members u, M.neighborsPure w F v 0 2 none = .ok (nb v)) :
    basicRender w F u rf none =
      .ok (some ("\n".intercalate ((w.members u).map fun v =>
        rf (some v) ++ " -> " ++ ", ".intercalate ((nb v).map rf)))) :=
  basicRender_ok hne hnb

/-- with a sort key: the members in the (stable) order of the key, each with its neighbours
    sorted by the key -/
theorem C16_lines_sorted (w : World) (F : Nat → LId → Option VId → Bool) (u : VId) (rf : RFun)
    (key : Option VId → Nat) (nb : VId → List (Option VId)) (hne : w.members u ≠ [])
    (hnb : ∀ v ∈ w.members u, M.neighborsPure w F v 0 2 none = .ok (nb v)) :
    basicRender w F u rf (some key) =
      .ok (some ("\n".intercalate (((sortBy key ((w.members u).map some)).filterMap id).map fun v =>
        rf (some v) ++ " -> " ++ ", ".intercalate ((sortBy key (nb v)).map rf)))) :=
  basicRender_ok hne hnb

/-- the sort used is a stable sort by the key: a permutation of its input, ordered by the key -/
theorem C16_sortBy_spec (key : Option VId → Nat) (xs : List (Option VId)) :
    (sortBy key xs).Perm xs ∧ (sortBy key xs).Pairwise (fun a b => key a ≤ key b) := ⟨sortBy_perm key xs, sortBy_pairwise key xs⟩

/-- a vertex without neighbours still gets a line: its rendering followed by the arrow -/
theorem C16_isolated (rf : RFun) (v : VId) : line rf v [] = rf (some v) ++ " -> " := by
  simp [line]

/-- an exception of `neighbors()` (e.g. NotImplementedError for an unknown link class) is
    propagated -/
theorem C16_propagates (w : World) (F : Nat → LId → Option VId → Bool) (u : VId) (rf : RFun)
    (pre post : List VId) (v : VId) (e : Err) (nb : VId → List (Option VId))
    (hm : w.members u = pre ++ v :: post)
    (hpre : ∀ x ∈ pre, M.neighborsPure w F x 0 2 none = .ok (nb x))
    (hv : M.neighborsPure w F v 0 2 none = .error e) :
    basicRender w F u rf none = .error e :=
  basicRender_error hm hpre hv

/-- non-vacuity: a `None` neighbour is rendered like any other, in the order given -/
example : line (fun x => match x with | none => "none" | some v => s!"v{v}") 0 [some 1, none, some 0]
    = "v0 -> v1, none, v0" := by decide +kernel

end R
end EG
