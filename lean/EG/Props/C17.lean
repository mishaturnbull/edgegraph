import EG.Proofs.SingleLemmas
/-
  C17 — semi-singletons: per class, instances correspond one-to-one to argument keys.
  `cfg.mapOf` says which metaclass (instance map) a class uses — several classes may share one,
  a subclass shares its parent's; `cfg.keyOf m a` is the value of that metaclass's hash function
  on argument tuple `a` (equal keys = "arguments whose key equals").
-/
namespace EG
namespace Sg

variable (cfg : SSCfg)

theorem C17_wf_all_histories (ops : List SSOp) : (SS.run cfg {} ops).1.WF cfg := by
  exact SS.run_wf cfg ops {} (SS.init_wf cfg)

/-- constructing with arguments whose key equals a live key returns that key's instance,
    runs no `__init__`, and changes nothing -/
theorem C17_live_key_returns_same_no_init (s : SS) (c a a' i : Nat)
    (hk : cfg.keyOf (cfg.mapOf c) a' = cfg.keyOf (cfg.mapOf c) a) (hl : live cfg s c a = some i) :
    (s.step cfg (.construct c a')).2 = .inst i ∧ (s.step cfg (.construct c a')).1.inits = s.inits ∧
    (s.step cfg (.construct c a')).1.maps = s.maps := by
  unfold live at hl
  rw [← hk] at hl
  rw [SS.step_construct_hit cfg s c a' i hl]
  exact ⟨rfl, rfl, rfl⟩

/-- constructing with a key that is not live creates a NEW instance (different from every
    mapped instance), of the class that was called, with `__init__` run exactly once -/
theorem C17_new_key_new_instance (s : SS) (hs : s.WF cfg) (c a : Nat) (hl : live cfg s c a = none) :
    (s.step cfg (.construct c a)).2 = .inst s.next ∧
    (∀ m, ∀ p ∈ s.maps m, p.2 ≠ s.next) ∧
    (s.step cfg (.construct c a)).1.instCls s.next = c ∧
    (s.step cfg (.construct c a)).1.inits = s.inits ++ [(s.next, c, a)] ∧
    live cfg (s.step cfg (.construct c a)).1 c a = some s.next := by
  refine ⟨?_, fun m p hp => Nat.ne_of_lt (hs.entry_lt hp), ?_, ?_, ?_⟩
  · rw [SS.step_construct_miss cfg s c a hl]
  · rw [SS.step_construct_miss cfg s c a hl]; exact upd_same ..
  · rw [SS.step_construct_miss cfg s c a hl]
  · rw [live_construct, if_pos rfl, hl]; rfl

/-- the object returned by a construction is always an instance of the class that was called -/
theorem C17_returns_called_class (s : SS) (hs : s.WF cfg) (c a i : Nat)
    (h : (s.step cfg (.construct c a)).2 = .inst i) :
    (s.step cfg (.construct c a)).1.instCls i = c := by
  cases hl : live cfg s c a with
  | some j =>
    rw [SS.step_construct_hit cfg s c a j hl] at h ⊢
    cases h
    rw [live_def, slookup_eq] at hl
    exact hs.entry_cls (alookup_mem hl)
  | none =>
    rw [SS.step_construct_miss cfg s c a hl] at h ⊢
    cases h
    exact upd_same ..

/-- a construction with a key that is not live whose `__init__` raises registers NOTHING: the
    exception reaches the caller and the state (maps, instances, `__init__` log) is unchanged, so
    `check` / `get_all` keep reporting the key as absent and a retry constructs afresh -/
theorem C17_failed_construction_registers_nothing (s : SS) (c a : Nat) (hl : live cfg s c a = none) :
    s.step cfg (.constructFail c a) = (s, .raised) := by
  unfold live at hl
  simp only [SS.step, hl]

/-- … with a live key the instance is returned and `__init__` does not run (cannot raise) -/
theorem C17_failing_args_on_live_key (s : SS) (c a i : Nat) (hl : live cfg s c a = some i) :
    s.step cfg (.constructFail c a) = (s, .inst i) := by
  unfold live at hl
  simp only [SS.step, hl]

/-- `check` and `get_all` report exactly the live mappings and create nothing -/
theorem C17_reports_exact (s : SS) (c a : Nat) :
    (s.step cfg (.check c a)).1 = s ∧
    (s.step cfg (.check c a)).2 = (match live cfg s c a with | some i => .inst i | none => .none) ∧
    (s.step cfg (.getAll c)).1 = s ∧
    (∀ i, (∃ l, (s.step cfg (.getAll c)).2 = .insts l ∧ i ∈ l) ↔
          ∃ k, ((c, k), i) ∈ s.maps (cfg.mapOf c)) := by
  refine ⟨?_, ?_, rfl, fun i => ?_⟩
  · simp only [SS.step]
    split <;> rfl
  · simp only [SS.step, live]
    split <;> simp [*]
  · simp only [SS.step, SSAns.insts.injEq, exists_eq_left', List.mem_map, List.mem_filter,
      beq_iff_eq]
    constructor
    · rintro ⟨⟨⟨c1, k⟩, i1⟩, ⟨hp, rfl⟩, rfl⟩
      exact ⟨k, hp⟩
    · rintro ⟨k, hp⟩
      exact ⟨((c, k), i), ⟨hp, rfl⟩, rfl⟩

set_option linter.unusedVariables false in
/-- dropping a missing mapping raises KeyError and changes nothing; dropping a live one
    removes exactly it.  (`hs` is carried without need: this holds for every state.) -/
theorem C17_drop (s : SS) (hs : s.WF cfg) (c a : Nat) :
    (live cfg s c a = none → s.step cfg (.drop c a) = (s, .keyError)) ∧
    (∀ i, live cfg s c a = some i →
      (s.step cfg (.drop c a)).2 = .ok ∧ live cfg (s.step cfg (.drop c a)).1 c a = none ∧
      ∀ c' a', (c', cfg.keyOf (cfg.mapOf c') a') ≠ (c, cfg.keyOf (cfg.mapOf c) a) →
        live cfg (s.step cfg (.drop c a)).1 c' a' = live cfg s c' a') := by
  refine ⟨SS.step_drop_miss cfg s c a, fun i hl => ⟨?_, ?_, fun c' a' hne => ?_⟩⟩
  · rw [SS.step_drop_hit cfg s c a i hl]
  · rw [live_drop, if_pos rfl]
  · rw [live_drop, if_neg hne]

/-- isolation: construct / drop / clear on class `c`, and add_mapping of an instance of class
    `c`, never change what another class `c'` maps (hence what it returns or reports) — even
    when the two share one metaclass object or one is a subclass of the other -/
theorem C17_isolation (s : SS) (c c' a a' : Nat) (h : c' ≠ c) (i : Nat) (hi : s.instCls i = c) (hlt : i < s.next) :
    live cfg (s.step cfg (.construct c a)).1 c' a' = live cfg s c' a' ∧
    live cfg (s.step cfg (.drop c a)).1 c' a' = live cfg s c' a' ∧
    live cfg (s.step cfg (.clear c)).1 c' a' = live cfg s c' a' ∧
    live cfg (s.step cfg (.addMapping i a)).1 c' a' = live cfg s c' a' := by
  have kne : ∀ x y : Nat, ((c', x) : SKey) ≠ (c, y) := fun x y e => h (congrArg Prod.fst e)
  refine ⟨?_, ?_, ?_, ?_⟩
  · rw [live_construct, if_neg (kne _ _)]
  · rw [live_drop, if_neg (kne _ _)]
  · rw [live_clear, if_neg h]
  · rw [live_add cfg s i a c' a' hlt, hi, if_neg (kne _ _)]

/-- clear removes every mapping of the class -/
theorem C17_clear (s : SS) (c a : Nat) : live cfg (s.step cfg (.clear c)).1 c a = none := by
  rw [live_clear, if_pos rfl]

/-- non-vacuity: equal hashes do not collide, a shared metaclass and a subclass do not mix -/
example :
    let cfg : SSCfg := { mapOf := fun c => if c ≤ 2 then 0 else 1, keyOf := fun _ a => a }
    (SS.run cfg {} [.construct 0 4, .construct 0 5, .construct 1 4, .construct 2 4, .construct 0 4,
      .clear 1, .check 0 4, .check 1 4, .getAll 0]).2 =
    [.inst 0, .inst 1, .inst 2, .inst 3, .inst 0, .ok, .inst 0, .none, .insts [0, 1]] := by
  decide

end Sg
end EG
