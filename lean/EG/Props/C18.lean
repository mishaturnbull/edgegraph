import EG.Proofs.SingleLemmas
/-
  C18 — true singletons: at most one live instance per class between clears.
-/
namespace EG
namespace Sg

theorem C18_wf_all_histories (ops : List TSOp) : (TS.run {} ops).1.WF := by
  exact TS.run_wf ops {} TS.init_wf

/-- all constructions of a class between two clears of it return the same object, whatever
    arguments are passed and whatever happens to other classes in between -/
theorem C18_same_between_clears (s : TS) (c a a' : Nat) (mid : List TSOp)
    (hmid : ∀ op ∈ mid, keeps c op) :
    ((TS.run (s.step (.construct c a)).1 mid).1.step (.construct c a')).2 = (s.step (.construct c a)).2 := by
  obtain ⟨i, hi⟩ : ∃ i, (s.step (.construct c a)).2 = some i := by
    simp only [TS.step]; split <;> exact ⟨_, rfl⟩
  have hl : lookup c (s.step (.construct c a)).1.inst = some i := by
    rw [TS.lookup_construct, if_pos rfl, hi]
  rw [TS.step_construct_hit _ c a' i (TS.run_keeps_lookup mid _ c i hmid hl), hi]

set_option linter.unusedVariables false in
/-- `__init__` runs exactly once per such period, with the first call's arguments: the first
    construction after a clear creates a fresh object and logs one `__init__` run; no later
    call of the period logs another run for that object.  (`hmid` is carried without need: the
    `__init__` runs logged for an object that exists never change, `TS.run_old`.) -/
theorem C18_init_once_first_args (s : TS) (hs : s.WF) (c a a' : Nat) (mid : List TSOp)
    (hfresh : lookup c s.inst = none) (hmid : ∀ op ∈ mid, keeps c op) :
    (s.step (.construct c a)).2 = some s.next ∧
    (∀ p ∈ s.inst, p.2 ≠ s.next) ∧
    ((TS.run (s.step (.construct c a)).1 mid).1.step (.construct c a')).1.inits.filter (fun e => e.1 == s.next)
      = [(s.next, c, a)] := by
  rw [TS.step_construct_miss s c a hfresh]
  refine ⟨rfl, fun p hp => Nat.ne_of_lt (hs.inst_lt hp), ?_⟩
  generalize hs1 : (⟨s.inst ++ [(c, s.next)], s.next + 1, s.inits ++ [(s.next, c, a)]⟩ : TS) = s1
  have hlt : s.next < s1.next := hs1 ▸ Nat.lt_succ_self s.next
  -- the last call is a run of one op
  obtain ⟨hle, hmid'⟩ := TS.run_old mid s1 s.next hlt
  refine (TS.run_old [.construct c a'] _ s.next (Nat.lt_of_lt_of_le hlt hle)).2.trans (hmid'.trans ?_)
  subst hs1
  rw [List.filter_append, List.filter_eq_nil_iff.mpr fun e he => by simpa using Nat.ne_of_lt (hs.init_lt he)]
  simp

/-- each class (a subclass is just another class) has its own instance: a construction or a
    targeted clear of `c` leaves every other class's instance in place -/
theorem C18_per_class (s : TS) (c c' a : Nat) (h : c' ≠ c) :
    lookup c' (s.step (.construct c a)).1.inst = lookup c' s.inst ∧
    lookup c' (s.step (.clear (some c))).1.inst = lookup c' s.inst := by
  constructor
  · rw [TS.lookup_construct, if_neg h]
  · rw [TS.lookup_clear, if_neg h]

/-- two different classes never share their instance -/
theorem C18_distinct_instances (s : TS) (hs : s.WF) (c c' i : Nat) (h : c ≠ c')
    (h1 : lookup c s.inst = some i) : lookup c' s.inst ≠ some i := by
  intro h2
  rw [lookup_eq] at h1 h2
  exact h (congrArg Prod.fst (eq_of_nodup_map (·.2) hs.nodupInsts (alookup_mem h1) (alookup_mem h2) rfl))

/-- clearing one class makes exactly that class construct afresh -/
theorem C18_clear_isolated (s : TS) (c : Nat) :
    lookup c (s.step (.clear (some c))).1.inst = none := by
  rw [TS.lookup_clear, if_pos rfl]

/-- clearing all makes every class construct afresh -/
theorem C18_clear_all (s : TS) (c : Nat) : lookup c (s.step (.clear none)).1.inst = none := by
  simp only [TS.step, lookup]

/-- clearing a class that has no instance is harmless: nothing changes -/
theorem C18_clear_absent_harmless (s : TS) (c : Nat) (h : lookup c s.inst = none) :
    (s.step (.clear (some c))).1 = s := by
  simp only [TS.step, filter_key_id h]

/-- a construction whose `__init__` raises while the class has no instance registers NOTHING:
    the state is unchanged (so the next construction runs `__init__` afresh, on a new object) -/
theorem C18_failed_construction_registers_nothing (s : TS) (c a : Nat) (h : lookup c s.inst = none) :
    s.step (.constructFail c a) = (s, none) := by
  simp only [TS.step, h]

/-- … and while the class HAS an instance, that instance is returned and `__init__` is not run
    at all (so it cannot raise) -/
theorem C18_failing_args_on_live_instance (s : TS) (c a i : Nat) (h : lookup c s.inst = some i) :
    s.step (.constructFail c a) = (s, some i) := by
  simp only [TS.step, h]

/-- a global clear issued from INSIDE the `__init__` of a first construction ends the period of
    every other class, but the object under construction is filed in the NEW table: the class
    has exactly this instance afterwards, and its next construction returns it (no second
    `__init__`) -/
theorem C18_reentrant_clear_keeps_new_instance (s : TS) (c a a' : Nat) (h : lookup c s.inst = none) :
    (s.step (.constructClearing c a)).2 = some s.next ∧
    (s.step (.constructClearing c a)).1.inst = [(c, s.next)] ∧
    ((s.step (.constructClearing c a)).1.step (.construct c a')) =
      ((s.step (.constructClearing c a)).1, some s.next) := by
  simp [TS.step, h, lookup]

/-- non-vacuity: a constructor that clears all from inside `__init__` keeps its own object 1 and ends
    class 1's period (class 1 gets the new object 2) -/
example : (TS.run {} [.construct 1 0, .constructClearing 0 10, .construct 0 1, .construct 1 1]).2
    = [some 0, some 1, some 1, some 2] := by decide

/-- non-vacuity: a failed first construction registers nothing (the retry builds object 0); failing
    arguments on a class that has its instance return it -/
example : (TS.run {} [.constructFail 0 9, .construct 0 1, .constructFail 0 9]).2 = [none, some 0, some 0] := by decide

/-- non-vacuity: the same object whatever the arguments; clearing class 0 gives it a new object and
    leaves class 1's alone -/
example : (TS.run {} [.construct 0 1, .construct 0 4, .construct 1 0, .clear (some 0), .construct 0 5,
    .construct 1 7]).2 = [some 0, some 0, some 1, none, some 2, some 1] := by decide

end Sg
end EG
