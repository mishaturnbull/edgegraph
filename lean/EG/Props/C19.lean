import EG.Proofs.Inv
/-
  C19 — a universe and its laws always point at each other, after any (re)assignments.
-/
namespace EG

theorem C19_all_histories (F : Nat → LId → Option VId → Bool) (ops : List Op) (k : Nat) :
    LawSym (M.run F (ops.take k)).1 := (run_agree F (ops.take k)).2.lawSym

/-- every assignment succeeds (in particular giving laws to a universe whose laws are None),
    from either side, to another object or to None, and has the requested effect -/
theorem C19_every_assignment_succeeds (F : Nat → LId → Option VId → Bool) (w : World) (h : Inv w)
    (u : VId) (L : WId) (hu : w.isUni u = true) (hL : w.wOK L = true) :
    (M.step F w (.setLaws u (some L))).2 = .ok ∧ (M.step F w (.setLaws u (some L))).1.laws u = some L ∧
    (M.step F w (.setLaws u none)).2 = .ok ∧ (M.step F w (.setLaws u none)).1.laws u = none ∧
    (M.step F w (.setAppliesTo L (some u))).2 = .ok ∧
      (M.step F w (.setAppliesTo L (some u))).1.appliesTo L = some u ∧
    (M.step F w (.setAppliesTo L none)).2 = .ok ∧
      (M.step F w (.setAppliesTo L none)).1.appliesTo L = none := by
  rw [step_agree F w _ h, step_agree F w _ h, step_agree F w _ h, step_agree F w _ h]
  simp [S.step, C.step, S.prims, C.ofOpt, hu, hL, S.setLaws_laws, S.setAppliesTo_appliesTo]

/-- a universe constructed without laws gets a fresh law set of its own; constructed with a
    law set in use elsewhere it takes it over -/
theorem C19_ctor (F : Nat → LId → Option VId → Bool) (w : World) (h : Inv w)
    (attrs : List (Nat × Nat)) (L : WId) (hL : w.wOK L = true) :
    (M.step F w (.newUniverse attrs [] none)).1.laws w.nV = some w.nW ∧
    (M.step F w (.newUniverse attrs [] (some L))).1.laws w.nV = some L := by
  rw [step_agree F w _ h, step_agree F w _ h]
  simp [S.step, C.step, hL, C.newUniverse_unfold, S.prims, C.uniAddVertices, S.setLaws_laws]
  exact ⟨rfl, rfl⟩

/-- the rule attributes of a law set never change after construction, whatever is called -/
theorem C19_rules_immutable (F : Nat → LId → Option VId → Bool) (w : World) (op : Op) (L : WId)
    (hL : L < w.nW) : (M.step F w op).1.rules L = w.rules L :=
  C.step_rules M.prims_framePres F w op L hL

/-- … and read back what was passed to the constructor -/
theorem C19_rules_readback (F : Nat → LId → Option VId → Bool) (w : World) (r : Nat) :
    (M.step F w (.newLaws r)).2 = .laws w.nW ∧ (M.step F w (.newLaws r)).1.rules w.nW = r := by
  simp [M.step, C.step, M.allocLaws]

end EG
