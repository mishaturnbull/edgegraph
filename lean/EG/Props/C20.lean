import EG.Proofs.BuildLemmas
/-
  C20 — randgraph always returns a universe of exactly `count` well-formed vertices.
  The random generator is an oracle: `draws` are its answers (one `randint` value and one
  `sample` per vertex), and `drawsOK` says they are answers `random.randint(1, max(1,i))` and
  `random.sample(verts, k)` can give.  "For every state of the RNG" = for all admissible draws.
  `hc` belongs to the statement of `C20_builds` but is not needed.
-/
namespace EG

/-- the number of vertices asked of `random.sample` never exceeds the population, whatever
    `randint` returned and however the floating-point product rounds: `sample` cannot raise -/
theorem C20_k_le_count (count r p q : Nat) (ensure : Bool) : C.randK count r p q ensure ≤ count := by
  unfold C.randK
  exact Nat.min_le_right _ _

/-- with ensurelink at least one neighbour is drawn for every vertex -/
theorem C20_k_pos (count r p q : Nat) (hc : 1 ≤ count) : 1 ≤ C.randK count r p q true := by
  unfold C.randK
  simp only [if_true]
  exact Nat.le_min.mpr ⟨Nat.le_max_right _ _, hc⟩

set_option linter.unusedVariables false in
theorem C20_builds (w : World) (count : Nat) (c : LCls) (conn : Option (Nat × Nat)) (ensure : Bool)
    (draws : List C.Draw) (h : Inv w) (hc : c.kind ≠ .nary) (hcount : 1 ≤ count)
    (hq : ∀ pq, conn = some pq → pq.2 ≠ 0)
    (hlen : draws.length = count)
    (hok : C.drawsOK count (conn.getD (5, count)).1 (conn.getD (5, count)).2 ensure 0 draws = true) :
    ∃ w', C.randgraph M.prims w count c conn ensure draws = .ok (w', w.nV + count) ∧
      Inv w' ∧
      -- exactly `count` vertices, carrying i = 0 .. count-1
      (w'.members (w.nV + count)).Nodup ∧
      (∀ x, x ∈ w'.members (w.nV + count) ↔ w.nV ≤ x ∧ x < w.nV + count) ∧
      (∀ i, i < count → w'.attrs (w.nV + i) = [(99, i)]) ∧
      -- every new link is of the requested type with both ends inside the universe
      (∀ l, w.nL ≤ l → l < w'.nL → w'.lcls l = c ∧
        ∃ a b, w'.ends l = [some a, some b] ∧ a ∈ w'.members (w.nV + count) ∧ b ∈ w'.members (w.nV + count)) ∧
      -- pre-existing links are untouched and none of them is attached to a new vertex
      (∀ l, l < w.nL → w'.ends l = w.ends l) ∧
      (∀ i, i < count → ∀ l ∈ w'.links (w.nV + i), w.nL ≤ l) ∧
      -- with ensurelink every vertex is the first end of at least one link
      (ensure = true → ∀ i, i < count → ∃ l, w.nL ≤ l ∧ l < w'.nL ∧ (w'.ends l).head? = some (some (w.nV + i))) := by
  subst hlen
  have hq0 : (conn.getD (5, draws.length)).2 ≠ 0 := by
    cases conn with
    | none => exact Nat.ne_of_gt hcount
    | some pq => exact hq pq rfl
  have hall := B.drawsOK_all _ _ _ ensure draws 0 hok
  obtain ⟨w2, w', e, r, hB⟩ := B.randgraph_spec B.plain_M w _ c conn ensure draws h hq0 rfl hok
  have hb : B.Built w2 w' (w.nV + draws.length) c _ _ := r.nV ▸ hB.built
  have hnl := r.nL ▸ hb.nlinks
  -- the members are the vertices the dict mentions
  have hms : ∀ x, x ∈ w'.members (w.nV + draws.length) ↔ x ∈ B.mentions _ := fun x => by
    rw [hb.members, mem_dedupKeepFirst]
  have hold : ∀ l, l < w.nL → w'.ends l = w.ends l := fun l hlt => by
    rw [(hb.old_links l (r.nL ▸ hlt)).1, r.ends]
  refine ⟨w', e, hb.inv, hb.members ▸ nodup_dedupKeepFirst _,
    fun x => (hms x).trans (B.mem_mentions_randAdj (fun d hd => (hall d hd).2) x),
    ?_, ?_, hold, ?_, ?_⟩
  · intro i hi
    rw [hB.attrs _ (r.nV ▸ Nat.add_lt_add_left hi _), r.new_attrs i hi, Nat.zero_add]
  · intro l h1 h2
    obtain ⟨j, rfl⟩ := Nat.exists_eq_add_of_le h1
    have hj := Nat.lt_of_add_lt_add_left (hnl ▸ h2)
    obtain ⟨n1, n2⟩ := r.nL ▸ hb.new_links j hj
    obtain ⟨m1, m2⟩ := B.pair_mem_mentions _ _ (List.getElem_mem hj)
    exact ⟨n2, _, _, n1, (hms _).mpr m1, (hms _).mpr m2⟩
  · intro i hi l hm
    -- an older link has its old ends, so by symmetry afterwards and before it would be on the
    -- vertex already in `w`
    refine Nat.le_of_not_lt fun hlt => ?_
    rw [hb.inv.sym.iff, hold l hlt, ← h.sym.iff, (h.fresh.vertex (Nat.le_add_right _ _)).1] at hm
    cases hm
  · rintro rfl i hi
    obtain ⟨s, hs⟩ := List.exists_mem_of_length_pos (l := draws[i].sample) (by
      rw [(hall _ (List.getElem_mem hi)).1]; exact C20_k_pos _ _ _ _ hcount)
    obtain ⟨j, hj, ej⟩ := List.getElem_of_mem ((B.mem_dictPairs _ (w.nV + i, w.nV + s)).mpr
      ⟨_, B.mem_randAdj.mpr ⟨i, hi, rfl⟩, _, List.mem_map_of_mem hs, rfl⟩)
    refine ⟨w.nL + j, Nat.le_add_right _ _, hnl ▸ Nat.add_lt_add_left hj _, ?_⟩
    rw [← r.nL, (hb.new_links j hj).1, ej]; rfl

/-- reproducibility: the result is a function of the generator's answers alone -/
theorem C20_reproducible (w : World) (count : Nat) (c : LCls) (conn : Option (Nat × Nat)) (ensure : Bool)
    (d1 d2 : List C.Draw) (h : d1.map (fun d => (d.r, d.sample)) = d2.map (fun d => (d.r, d.sample))) :
    C.randgraph M.prims w count c conn ensure d1 = C.randgraph M.prims w count c conn ensure d2 := by
  rw [B.draw_eq_of_map d1 d2 h]

/-- non-vacuity: count = 1 with the default connectivity 5/1 (the case that used to raise) -/
example : C.randK 1 1 5 1 true = 1 ∧ C.randK 3 2 5 3 false = 3 ∧ C.randK 10 3 3 10 false = 0 := by
  decide +kernel

end EG
