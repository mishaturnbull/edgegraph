import EG.TravOps
import EG.Render
/-
  EG.TravState — the traversal and search entry points WITH their effect on the world.

  `EG.Trav` / `EG.TravOps` describe what the loops of traversal/breadthfirst.py and
  traversal/depthfirst.py list, as pure functions of a resolved neighbour function.  The real
  loops obtain every neighbour list by CALLING `helpers.neighbors(...)`, and with
  `Vertex.NEIGHBOR_CACHING` on each such call reads and writes the memo of the vertex it is
  asked about.  This file mirrors exactly that: the same six loops, threading a state through
  every `neighbors()` call, in the order in which the code makes those calls.

    nbS s x = (state after `neighbors(x)`, the list it returned)

  Instantiated (`nbW`) with state = (world, "an exception is propagating"):
    * a call goes through `M.neighbors` — memo hit, or recomputation + memo insertion;
    * once a call has raised, the real generator is dead: nothing else is called, so the world
      no longer changes (the pure loops of EG.Trav keep running after the pseudo-error id only
      to produce a listing that `cutOutput` cuts at that id; the flag makes the remaining
      "calls" read-only so that the modelled world stops where the real one does).

  `EG.Proofs.TravStateLemmas` proves that these are simulations of the pure loops under any
  state invariant that makes `nbS` answer like `nb`; `EG.Props.C05Trav` draws the
  conclusions (transparency of the memo for traversals and searches, read-only-ness).
  The driver (Main.lean) executes THESE functions, so memo entries written by traversals are
  part of the world the real code is compared with.
-/
namespace EG
namespace TS

section generic

variable {σ : Type} (nbS : σ → Nat → σ × List Nat) (inU : Nat → Bool) (ffr : Nat → Bool)

/-- the `while queue` loop of `ibft` -/
def bftLoop : Nat → σ → List Nat → List Nat → List Nat → σ × List Nat
  | 0, s, _, _, out => (s, out)
  | _+1, s, _, [], out => (s, out)
  | f+1, s, vis, u :: q, out =>
    let r := nbS s u
    let t := T.bftScan inU ffr vis q out r.2
    bftLoop f r.1 t.1 t.2.1 t.2.2

def bft (fuel : Nat) (s : σ) (start : Nat) : σ × List Nat :=
  bftLoop nbS inU ffr fuel s [start] [start] (if ffr start then [start] else [])

/-- `_dft_recur(v)`; state = (σ, visited, yielded) -/
def dftRec : Nat → σ × List Nat × List Nat → Nat → σ × List Nat × List Nat
  | 0, s, _ => s
  | f+1, s, v =>
    let r := nbS s.1 v
    r.2.foldl
      (fun s w => if !inU w then s else if w ∈ s.2.1 then s else dftRec f s w)
      (r.1, s.2.1 ++ [v], if ffr v then s.2.2 ++ [v] else s.2.2)

def dftRecursive (fuel : Nat) (s : σ) (start : Nat) : σ × List Nat :=
  let r := dftRec nbS inU ffr fuel (s, [], []) start
  (r.1, r.2.2)

/-- the `while len(stack) != 0` loop of `idft_iterative` -/
def dftIterLoop : Nat → σ → List Nat → List Nat → List Nat → σ × List Nat
  | 0, s, _, _, out => (s, out)
  | _+1, s, [], _, out => (s, out)
  | f+1, s, v :: st, disc, out =>
    if v ∈ disc then dftIterLoop f s st disc out
    else if !inU v then dftIterLoop f s st disc out
    else
      let r := nbS s v
      dftIterLoop f r.1 (r.2.reverse ++ st) (disc ++ [v]) (if ffr v then out ++ [v] else out)

def dftIterative (fuel : Nat) (s : σ) (start : Nat) : σ × List Nat :=
  dftIterLoop nbS inU ffr fuel s [start] [] []

variable (p : Nat → Bool)

def bfsLoop : Nat → σ → List Nat → List Nat → σ × Option Nat
  | 0, s, _, _ => (s, none)
  | _+1, s, _, [] => (s, none)
  | f+1, s, vis, u :: q =>
    let r := nbS s u
    match T.bfsScan inU p vis q r.2 with
    | .inl x => (r.1, some x)
    | .inr t => bfsLoop f r.1 t.1 t.2

def bfs (fuel : Nat) (s : σ) (start : Nat) : σ × Option Nat :=
  if p start then (s, some start) else bfsLoop nbS inU p fuel s [start] [start]

/-- `_dfs_recur(v)`; state = ((σ, visited), result) -/
def dfsRec : Nat → σ × List Nat → Nat → (σ × List Nat) × Option Nat
  | 0, s, _ => (s, none)
  | f+1, s, v =>
    let r := nbS s.1 v
    r.2.foldl
      (fun a w =>
        match a.2 with
        | some _ => a
        | none =>
          if !inU w then a else if w ∈ a.1.2 then a
          else if p w then (a.1, some w)
          else dfsRec f a.1 w)
      ((r.1, s.2 ++ [v]), none)

def dfsRecursive (fuel : Nat) (s : σ) (start : Nat) : σ × Option Nat :=
  if p start then (s, some start) else
    let r := dfsRec nbS inU p fuel (s, []) start
    (r.1.1, r.2)

def dfsIterLoop : Nat → σ → List Nat → List Nat → σ × Option Nat
  | 0, s, _, _ => (s, none)
  | _+1, s, [], _ => (s, none)
  | f+1, s, v :: st, disc =>
    if !inU v then dfsIterLoop f s st disc
    else if v ∈ disc then dfsIterLoop f s st disc
    else if p v then (s, some v)
    else
      let r := nbS s v
      dfsIterLoop f r.1 (r.2.reverse ++ st) (disc ++ [v])

def dfsIterative (fuel : Nat) (s : σ) (start : Nat) : σ × Option Nat :=
  dfsIterLoop nbS inU p fuel s [start] []

end generic

/-- one `helpers.neighbors(x, dir, unk, via)` call made by a traversal, on (world, raised) -/
def nbW (F : Nat → LId → Option VId → Bool) (dir unk : Nat) (via : Option Nat)
    (s : World × Bool) (x : Nat) : (World × Bool) × List Nat :=
  if s.2 then (s, TO.resolvedNb s.1 F dir unk via x)
  else if x < s.1.nV then
    let r := M.neighbors s.1 F x dir unk via none
    match r.2 with
    | .ok l => ((r.1, false), l.map fun o => match o with | none => s.1.nV | some y => y)
    | .error _ => ((r.1, true), [s.1.nV + 1 + x])
  else if x = s.1.nV then ((s.1, true), [s.1.nV + 1 + s.1.nV])
  else (s, [])

/-- one traversal call: the world afterwards, the listed prefix, the exception raised after it -/
def traverse (w : World) (F : Nat → LId → Option VId → Bool) (ffr : Nat → Bool) (kind : TO.TravKind)
    (uni : Option VId) (start : VId) (dir unk : Nat) (via : Option Nat) :
    World × (List Nat × Option Err) :=
  let emptyUni := match uni with | some u => (w.members u).isEmpty | none => false
  let startOut := match uni with | some u => !((w.members u).contains start) | none => false
  if emptyUni then (w, if kind = .bft then ([], none) else ([], some .value))
  else if startOut then (w, ([], some .value))
  else
    let fuel := TO.fuelFor w (TO.resolvedNb w F dir unk via)
    let r := match kind with
      | .bft => bft (nbW F dir unk via) (TO.inUni w uni) ffr fuel (w, false) start
      | .dftr => dftRecursive (nbW F dir unk via) (TO.inUni w uni) ffr fuel (w, false) start
      | .dfti => dftIterative (nbW F dir unk via) (TO.inUni w uni) ffr fuel (w, false) start
    (r.1.1, TO.cutOutput w F dir unk via r.2)

/-- one search call: the world afterwards, and `.inl e` = raised / `.inr x?` = returned -/
def search (w : World) (F : Nat → LId → Option VId → Bool) (kind : TO.SearchKind) (uni : Option VId)
    (start : VId) (attr val : Nat) : World × (Err ⊕ Option Nat) :=
  let emptyUni := match uni with | some u => (w.members u).isEmpty | none => false
  let startOut := match uni with | some u => !((w.members u).contains start) | none => false
  if emptyUni then (w, if kind = .bfs then .inr none else .inl .value)
  else if startOut then (w, .inl .value)
  else
    let fuel := TO.fuelFor w (TO.resolvedNb w F 0 2 none)
    let r := match kind with
      | .bfs => bfs (nbW F 0 2 none) (TO.inUni w uni) (TO.attrMatch w attr val) fuel (w, false) start
      | .dfsr => dfsRecursive (nbW F 0 2 none) (TO.inUni w uni) (TO.attrMatch w attr val) fuel (w, false) start
      | .dfsi => dfsIterative (nbW F 0 2 none) (TO.inUni w uni) (TO.attrMatch w attr val) fuel (w, false) start
    (r.1.1, match r.2 with
      | none => .inr none
      | some x =>
        if x > w.nV then .inl ((TO.errOf w F 0 2 none (x - w.nV - 1)).getD .other) else .inr (some x))

end TS
end EG

/-! ### `basic_render` with its memo traffic

  `basic_render` obtains the neighbours of every member by calling `helpers.neighbors(vert)`
  (default settings), one member after the other; with caching on each call reads / writes the
  memo of that member.  When a call raises, the render stops there. -/
namespace EG
namespace R

def renderLinesS (F : Nat → LId → Option VId → Bool) (rf : RFun) (sort : Option (Option VId → Nat)) :
    World → List VId → World × Except Err (List String)
  | w, [] => (w, .ok [])
  | w, v :: vs =>
    let r := M.neighbors w F v 0 2 none none
    match r.2 with
    | .error e => (r.1, .error e)
    | .ok nbs =>
      let nbs := match sort with | some key => sortBy key nbs | none => nbs
      let r' := renderLinesS F rf sort r.1 vs
      match r'.2 with
      | .error e => (r'.1, .error e)
      | .ok rest => (r'.1, .ok (line rf v nbs :: rest))

/-- `basic_render(uni=u, rfunc, sort)` : the world afterwards and the answer -/
def basicRenderS (w : World) (F : Nat → LId → Option VId → Bool) (u : VId) (rf : RFun)
    (sort : Option (Option VId → Nat)) : World × Except Err (Option String) :=
  if (w.members u).isEmpty then (w, .ok none) else
  let verts := match sort with
    | some key => (sortBy key ((w.members u).map some)).filterMap id
    | none => w.members u
  let r := renderLinesS F rf sort w verts
  match r.2 with
  | .error e => (r.1, .error e)
  | .ok ls => (r.1, .ok (some ("\n".intercalate ls)))

end R
end EG
